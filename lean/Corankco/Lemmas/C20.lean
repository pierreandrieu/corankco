import Corankco.Model.Markov
import Corankco.Spec.C20
import Corankco.Lemmas.Basic
/-
  C20 — the Markov moves on bucket-id vectors keep the numbering dense.  `Dense` only speaks about membership, so it is
  invariant under permutation: a move `(v.map f).set e a` becomes a statement about the entry `b = v[e]` and the list
  `w` of the other entries (`DenseFrom.move`), of one of three kinds (`openAt`, `closeAt`, `stay`).  Then the conversion
  to a ranking (`toRanking_eq`, `validRanking_iff`) and the bridge with the executable `Spec.denseB`
  (`dense_iff_denseB`, the `Decidable` instance).
-/
namespace Corankco
open Model

/-- Dense bucket numbering: entries are ≥ -1 (absent) and the used bucket ids are exactly `0..max`. -/
def Dense (v : List Int) : Prop :=
  (∀ x ∈ v, -1 ≤ x) ∧ ∀ x ∈ v, ∀ b : Int, 0 ≤ b → b < x → b ∈ v

def others (v : List Int) (e : Nat) : List Int := v.take e ++ v.drop (e + 1)

/-- `Dense` with the lower bound `-1` replaced by `lo`: `lo = 0` is the complete mode, where no entry is ever `-1`.
    Every move lemma below holds for every `lo ≤ 0`, which gives density and non-negativity at once. -/
def DenseFrom (lo : Int) (v : List Int) : Prop :=
  (∀ x ∈ v, lo ≤ x) ∧ ∀ x ∈ v, ∀ b : Int, 0 ≤ b → b < x → b ∈ v

theorem perm_set_map (f : Int → Int) (v : List Int) (e : Nat) (a : Int) (he : e < v.length) :
    ((v.map f).set e a).Perm (a :: (others v e).map f) := by
  rw [List.set_eq_take_append_cons_drop]
  simp only [List.length_map, he, if_true, others, List.map_append, List.map_take, List.map_drop]
  exact List.perm_middle

theorem perm_others (v : List Int) (e : Nat) (he : e < v.length) :
    v.Perm (v.getD e 0 :: others v e) := by
  have := perm_set_map id v e (v.getD e 0) he
  rw [List.map_id, List.map_id, getD_of_lt he, List.set_getElem_self] at this
  rwa [getD_of_lt he]

theorem DenseFrom.perm {lo : Int} {l₁ l₂ : List Int} (p : l₁.Perm l₂) (h : DenseFrom lo l₁) : DenseFrom lo l₂ := by
  unfold DenseFrom at *
  simp only [← p.mem_iff]
  exact h

theorem Dense.others {v : List Int} (h : Dense v) {e : Nat} (he : e < v.length) :
    Dense (v.getD e 0 :: others v e) := DenseFrom.perm (perm_others v e he) h

theorem DenseFrom.move {lo a : Int} {f : Int → Int} {v : List Int} {e : Nat} (h : DenseFrom lo v) (he : e < v.length)
    (H : DenseFrom lo (v.getD e 0 :: others v e) → DenseFrom lo (a :: (others v e).map f)) :
    DenseFrom lo ((v.map f).set e a) :=
  (H (h.perm (perm_others v e he))).perm (perm_set_map f v e a he).symm

theorem mem_others_iff {v : List Int} {e : Nat} (he : e < v.length) :
    v.getD e 0 ∈ others v e ↔ cnt v (v.getD e 0) ≠ 1 := by
  have : cnt v (v.getD e 0) = (others v e).count (v.getD e 0) + 1 :=
    ((perm_others v e he).count_eq _).trans List.count_cons_self
  rw [this, ← List.count_pos_iff]
  exact Nat.pos_iff_ne_zero.trans (not_congr Nat.add_eq_right).symm

theorem denseFrom_cons_map {lo : Int} (f : Int → Int) (a : Int) (w : List Int)
    (h1 : lo ≤ a) (h2 : ∀ y ∈ w, lo ≤ f y)
    (h3 : ∀ c, 0 ≤ c → (c < a ∨ ∃ y ∈ w, c < f y) → c = a ∨ ∃ y ∈ w, f y = c) :
    DenseFrom lo (a :: w.map f) := by
  refine ⟨List.forall_mem_cons.mpr ⟨h1, List.forall_mem_map.mpr h2⟩, ?_⟩
  rw [List.forall_mem_cons, List.forall_mem_map]
  simp only [List.mem_cons, List.mem_map]
  exact ⟨fun c hc0 hca => h3 c hc0 (.inl hca), fun y hy c hc0 hcy => h3 c hc0 (.inr ⟨y, hy, hcy⟩)⟩

theorem DenseFrom.mem_tail {lo b c y : Int} {w : List Int} (hD : DenseFrom lo (b :: w)) (h0 : 0 ≤ c)
    (hy : y ∈ b :: w) (hc : c ≤ y) (hb : b ∈ w ∨ c ≠ b) : c ∈ w := by
  have : c ∈ b :: w := (Int.lt_or_eq_of_le hc).elim (hD.2 y hy c h0) (· ▸ hy)
  exact (List.mem_cons.mp this).elim (fun e => hb.elim (e ▸ ·) (absurd e)) id

/-! ### the three things a move does (`b ∈ w`: the bucket of the moved element survives its departure) -/

/-- A new bucket is opened at `t ≤ b + 1` for `e` alone: the ids from `t` on move up by one.
    (`__add_left`: `t = b`, `__add_right`: `t = b + 1`, `__put_element_first`: `b = -1`, `t = 0`.) -/
theorem DenseFrom.openAt {lo b t : Int} {w : List Int} (hD : DenseFrom lo (b :: w)) (hlo : lo ≤ 0)
    (hb : b ∈ w ∨ b < 0) (h0 : 0 ≤ t) (ht : t ≤ b + 1) :
    DenseFrom lo (t :: w.map fun x => if t ≤ x then x + 1 else x) := by
  apply denseFrom_cons_map
  · exact Int.le_trans hlo h0
  · intro y hy
    have := hD.1 y (List.mem_cons_of_mem _ hy)
    exact iteInduction (fun _ => Int.le_add_one this) fun _ => this
  · intro c hc0 h
    rcases Int.lt_trichotomy c t with h1 | h2 | h3
    · exact .inr ⟨c, hD.mem_tail hc0 List.mem_cons_self (Int.le_of_lt_add_one (Int.lt_of_lt_of_le h1 ht))
        (hb.imp_right fun _ => by omega), if_neg (Int.not_le.mpr h1)⟩
    · exact .inl h2
    -- `c > t` lies below some renumbered `y + 1`, so `c - 1 ≥ t` is a used id and is renumbered to `c`
    obtain ⟨y, hy, hcy⟩ := h.resolve_left (Int.lt_asymm h3)
    have hcy : c - 1 ≤ y := by split at hcy <;> omega
    have htc := Int.le_sub_one_of_lt h3
    exact .inr ⟨c - 1, hD.mem_tail (Int.le_trans h0 htc) (List.mem_cons_of_mem _ hy) hcy
      (hb.imp_right fun _ => by omega), (if_pos htc).trans (Int.sub_add_cancel c 1)⟩

/-- The bucket `b` of `e` is closed (the ids above it move down by one) and `e` goes to `a ≤ b`.
    Needed when `e` was alone in `b`, true in any case. -/
theorem DenseFrom.closeAt {lo b a : Int} {w : List Int} (hD : DenseFrom lo (b :: w)) (ha : lo ≤ a) (hab : a ≤ b) :
    DenseFrom lo (a :: w.map fun x => if x > b then x - 1 else x) := by
  apply denseFrom_cons_map
  · exact ha
  · intro y hy
    have := hD.1 y (List.mem_cons_of_mem _ hy)
    split <;> omega
  · intro c hc0 h
    rcases Int.lt_or_le c b with h1 | h1
    · exact .inr ⟨c, hD.mem_tail hc0 List.mem_cons_self (Int.le_of_lt h1) (.inr (Int.ne_of_lt h1)),
        if_neg (Int.lt_asymm h1)⟩
    -- `c ≥ b` lies below some renumbered `y - 1`, so `c + 1 > b` is a used id and is renumbered to `c`
    obtain ⟨y, hy, hcy⟩ := h.resolve_left (Int.not_lt.mpr (Int.le_trans hab h1))
    have hcy : c + 1 ≤ y := by split at hcy <;> omega
    have hbc := Int.lt_add_one_of_le h1
    exact .inr ⟨c + 1, hD.mem_tail (Int.le_add_one hc0) (List.mem_cons_of_mem _ hy) hcy (.inr (Int.ne_of_gt hbc)),
      (if_pos hbc).trans (Int.add_sub_cancel c 1)⟩

/-- `e` leaves a bucket that keeps other members, for a neighbouring bucket or for `-1`: nothing is renumbered. -/
theorem DenseFrom.stay {lo a : Int} {v : List Int} {e : Nat} (h : DenseFrom lo v) (he : e < v.length)
    (hc : cnt v (v.getD e 0) ≠ 1) (ha : lo ≤ a) (hab : a ≤ v.getD e 0 + 1) : DenseFrom lo (v.set e a) := by
  have hm := (mem_others_iff he).mpr hc
  have := h.move (f := id) he fun hD =>
    denseFrom_cons_map id a _ ha (fun y hy => hD.1 y (List.mem_cons_of_mem _ hy)) fun c hc0 h =>
      .inr ⟨c, h.elim
        (fun h => hD.mem_tail hc0 List.mem_cons_self (Int.le_of_lt_add_one (Int.lt_of_lt_of_le h hab)) (.inl hm))
        fun ⟨y, hy, h⟩ => hD.mem_tail hc0 (List.mem_cons_of_mem _ hy) (Int.le_of_lt h) (.inl hm), rfl⟩
  rwa [List.map_id] at this

theorem addLeft_denseFrom {lo : Int} (hlo : lo ≤ 0) {v : List Int} {e : Nat} (he : e < v.length)
    (hr : 0 ≤ v.getD e 0) (h : DenseFrom lo v) : DenseFrom lo (addLeft v e) :=
  iteInduction (fun hc => h.move he fun hD =>
    hD.openAt hlo (.inl ((mem_others_iff he).mpr (Nat.ne_of_gt hc))) hr (Int.le_add_one (Int.le_refl _))) fun _ => h

/-- on `Int`, `x > b` is by definition `b + 1 ≤ x`: the new bucket is opened at `b + 1` -/
theorem addRight_denseFrom {lo : Int} (hlo : lo ≤ 0) {v : List Int} {e : Nat} (he : e < v.length)
    (hr : 0 ≤ v.getD e 0) (h : DenseFrom lo v) : DenseFrom lo (addRight v e) :=
  iteInduction (fun hc => h.move he fun hD =>
    hD.openAt hlo (.inl ((mem_others_iff he).mpr (by omega))) (Int.le_add_one hr) (Int.le_refl _)) fun _ => h

theorem changeLeft_denseFrom {lo : Int} (hlo : lo ≤ 0) {v : List Int} {e : Nat} (he : e < v.length)
    (hr : 0 ≤ v.getD e 0) (h : DenseFrom lo v) : DenseFrom lo (changeLeft v e) := by
  refine iteInduction (fun hb => ?_) fun _ => h
  have ha : lo ≤ v.getD e 0 - 1 := by omega
  by_cases hc : cnt v (v.getD e 0) = 1
  · rw [if_pos hc, getD_map_of_lt he, ← getD_of_lt (d := 0) he, if_neg (Int.lt_irrefl _)]
    exact h.move he fun hD => hD.closeAt ha (Int.sub_le_self _ Int.one_nonneg)
  · rw [if_neg hc]
    exact h.stay he hc ha (by omega)

theorem changeRight_denseFrom {lo : Int} (hlo : lo ≤ 0) {v : List Int} {e : Nat} (he : e < v.length)
    (hr : 0 ≤ v.getD e 0) (h : DenseFrom lo v) : DenseFrom lo (changeRight v e) := by
  have hb := Int.le_trans hlo hr
  refine iteInduction (fun _ => iteInduction (fun _ => ?_) fun hc => ?_) fun _ => h
  · rw [List.map_set, if_pos (Int.lt_succ _), Int.add_sub_cancel]
    exact h.move he fun hD => hD.closeAt hb (Int.le_refl _)
  · exact h.stay he hc (Int.le_add_one hb) (Int.le_refl _)

theorem removeElem_dense {v : List Int} {e : Nat} (he : e < v.length) (hr : 0 ≤ v.getD e 0) (h : Dense v) :
    Dense (removeElem v e) :=
  have hb : -1 ≤ v.getD e 0 := Int.le_trans (by decide) hr
  iteInduction (motive := fun v' : List Int => Dense (v'.set e (-1)))
    (fun _ => DenseFrom.move (lo := -1) h he fun hD => hD.closeAt (Int.le_refl _) hb)
    fun hc => DenseFrom.stay (lo := -1) h he hc (Int.le_refl _) (Int.le_add_one hb)

theorem putFirst_dense {v : List Int} {e : Nat} (he : e < v.length) (hm : v.getD e 0 = -1) (h : Dense v) :
    Dense (putFirst v e) :=
  DenseFrom.move (lo := -1) h he fun hD =>
    (hm ▸ hD).openAt (by decide) (.inr (by decide)) (Int.le_refl 0) (by decide)

theorem le_vmax_iff {v : List Int} {c : Int} (hc : 0 ≤ c) : c ≤ vmax v ↔ ∃ x ∈ v, c ≤ x := by
  fun_induction vmax v with
  | case1 => simp; omega
  | case2 x => simp
  | case3 x xs _ ih =>
    simp only [List.mem_cons, exists_eq_or_imp, ← ih]
    omega

theorem moves_length (v : List Int) (e : Nat) :
    (addLeft v e).length = v.length ∧ (addRight v e).length = v.length ∧
    (changeLeft v e).length = v.length ∧ (changeRight v e).length = v.length ∧
    (removeElem v e).length = v.length ∧ (putFirst v e).length = v.length := by
  simp only [addLeft, addRight, changeLeft, changeRight, removeElem, putFirst, apply_ite List.length,
    List.length_set, List.length_map, ite_self, and_self]

@[simp] theorem stepComplete_length (v : List Int) (e a : Nat) : (stepComplete v e a).length = v.length := by
  simp [stepComplete, moves_length, apply_ite List.length]

@[simp] theorem stepIncomplete_length (v : List Int) (e a : Nat) : (stepIncomplete v e a).length = v.length := by
  simp only [stepIncomplete, moves_length, apply_ite List.length, ite_self]

theorem stepIncomplete_eq (v : List Int) (e a : Nat) :
    stepIncomplete v e a =
      if v.getD e 0 < 0 then (if a = 5 then putFirst v e else v)
      else if a = 5 then removeElem v e else stepComplete v e a := by
  unfold stepIncomplete stepComplete
  by_cases h5 : a = 5
  · subst h5; rfl
  · simp only [h5, if_false]

theorem stepComplete_denseFrom {lo : Int} (hlo : lo ≤ 0) {v : List Int} {e : Nat} (a : Nat) (he : e < v.length)
    (hr : 0 ≤ v.getD e 0) (h : DenseFrom lo v) : DenseFrom lo (stepComplete v e a) :=
  iteInduction (fun _ => addLeft_denseFrom hlo he hr h) fun _ =>
  iteInduction (fun _ => addRight_denseFrom hlo he hr h) fun _ =>
  iteInduction (fun _ => changeLeft_denseFrom hlo he hr h) fun _ =>
  iteInduction (fun _ => changeRight_denseFrom hlo he hr h) fun _ => h

theorem stepIncomplete_dense {v : List Int} {e : Nat} (a : Nat) (he : e < v.length) (h : Dense v) :
    Dense (stepIncomplete v e a) := by
  have := h.1 _ (getD_mem 0 he)
  rw [stepIncomplete_eq]
  exact iteInduction (fun hm => iteInduction (fun _ => putFirst_dense he (by omega) h) fun _ => h) fun hr =>
    have hr := Int.not_lt.mp hr
    iteInduction (fun _ => removeElem_dense he hr h) fun _ => stepComplete_denseFrom (lo := -1) (by decide) a he hr h

theorem init_denseFrom (n : Nat) : DenseFrom 0 ((List.range n).map fun (i : Nat) => Int.ofNat i) :=
  ⟨List.forall_mem_map.mpr fun i _ => Int.natCast_nonneg i,
    List.forall_mem_map.mpr fun i hi b hb0 (hbi : b < (i : Int)) =>
      have hbn := Int.lt_trans hbi (Int.ofNat_lt.mpr (List.mem_range.mp hi))
      List.mem_map.mpr ⟨b.toNat, List.mem_range.mpr ((Int.toNat_lt hb0).mpr hbn), Int.toNat_of_nonneg hb0⟩⟩

/-! ### conversion -/

def bucketOf (v : List Int) (i : Nat) : List Nat :=
  (List.range v.length).filter fun e => v.getD e 0 == Int.ofNat i

theorem mem_bucketOf {v : List Int} {i e : Nat} :
    e ∈ bucketOf v i ↔ e < v.length ∧ v.getD e 0 = Int.ofNat i := by
  simp [bucketOf]

theorem toRanking_eq (v : List Int) :
    toRanking v = if (vmax v + 1).toNat > 0 then some ((List.range (vmax v + 1).toNat).map (bucketOf v)) else none :=
  rfl

theorem mem_flatten_buckets {v : List Int} {e : Nat} :
    e ∈ ((List.range (vmax v + 1).toNat).map (bucketOf v)).flatten ↔ e < v.length ∧ 0 ≤ v.getD e 0 := by
  simp only [List.mem_flatten, List.mem_map, List.mem_range]
  constructor
  · rintro ⟨_, ⟨i, _, rfl⟩, he⟩
    have ⟨he, hv⟩ := mem_bucketOf.mp he
    exact ⟨he, hv ▸ Int.natCast_nonneg i⟩
  · rintro ⟨he, h0⟩
    have := (le_vmax_iff h0).mpr ⟨_, getD_mem 0 he, Int.le_refl _⟩
    have := Int.lt_toNat.mpr ((Int.toNat_of_nonneg h0).symm ▸ Int.lt_add_one_of_le this)
    exact ⟨_, ⟨(v.getD e 0).toNat, this, rfl⟩, mem_bucketOf.mpr ⟨he, (Int.toNat_of_nonneg h0).symm⟩⟩

theorem validRanking_iff {n : Nat} {r : Ranking} :
    Spec.validRanking n r = true ↔ (∀ b ∈ r, b ≠ []) ∧ (∀ x ∈ r.flatten, x < n) ∧ r.flatten.Nodup := by
  simp only [Spec.validRanking, Bool.and_eq_true, List.all_eq_true, decide_eq_true_eq, Bool.not_eq_true',
    List.isEmpty_eq_false_iff, ne_eq, and_assoc]

/-! ### bridge with the executable `Spec.denseB` -/

theorem dense_iff_denseB (v : List Int) : Dense v ↔ Spec.denseB v = true := by
  unfold Dense Spec.denseB
  simp only [Bool.and_eq_true, List.all_eq_true, decide_eq_true_eq, List.mem_range, List.contains_iff_mem]
  refine and_congr_right fun _ => forall₂_congr fun x _ =>
    ⟨fun h b hb => h b (Int.natCast_nonneg b) (Int.lt_toNat.mp hb), fun h b h0 hb => ?_⟩
  exact Int.toNat_of_nonneg h0 ▸ h b.toNat ((Int.toNat_lt_toNat (Int.lt_of_le_of_lt h0 hb)).mpr hb)

instance (v : List Int) : Decidable (Dense v) := decidable_of_iff _ (dense_iff_denseB v).symm

end Corankco
