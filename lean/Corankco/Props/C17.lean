import Corankco.Lemmas.C17
/-
  C17 — dataset equality (`Counter(a) == Counter(b)` over rankings seen as tuples of frozensets) is equality of the
  multisets of rankings: an equivalence, irrespective of the order of the rankings and of the iteration order of the
  bucket members, and sensitive to multiplicities.  All from `C17.multisetEq_iff_cnt` and `C17.multisetEq_matching`.
-/
namespace Corankco
open Model

/-- ranking equality is an equivalence -/
theorem C17_ranking_equiv :
    (∀ r : NRanking, sameRankingN r r = true) ∧
    (∀ r q : NRanking, sameRankingN r q = sameRankingN q r) ∧
    (∀ r q s : NRanking, sameRankingN r q = true → sameRankingN q s = true → sameRankingN r s = true) :=
  ⟨C17.sameRankingN_refl, C17.sameRankingN_comm, fun _ _ _ h1 h2 => C17.sameRankingN_trans h1 h2⟩

/-- dataset equality means: same rankings with the same multiplicities — there is a reordering of `b` that matches `a`
    ranking by ranking -/
theorem C17_iff (a b : List NRanking) :
    multisetEq a b = true ↔
      ∃ b' : List NRanking, b'.Perm b ∧ List.Forall₂ (fun r q => sameRankingN r q = true) a b' :=
  ⟨C17.multisetEq_matching, fun ⟨_, hp, hf⟩ =>
    C17.multisetEq_of_cnt fun r => (C17.cnt_forall₂ hf r).trans (C17.cnt_perm hp r)⟩

theorem C17_refl (a : List NRanking) : multisetEq a a = true :=
  (C17.multisetEq_iff_cnt a a).2 fun _ => rfl

theorem C17_symm (a b : List NRanking) : multisetEq a b = multisetEq b a := by
  rw [Bool.eq_iff_iff, C17.multisetEq_iff_cnt, C17.multisetEq_iff_cnt]
  exact forall_congr' fun _ => eq_comm

theorem C17_trans (a b c : List NRanking) (h1 : multisetEq a b = true) (h2 : multisetEq b c = true) :
    multisetEq a c = true := by
  rw [C17.multisetEq_iff_cnt] at *
  exact fun r => (h1 r).trans (h2 r)

/-- irrespective of the order of the rankings -/
theorem C17_perm_rankings (a b : List NRanking) (h : a.Perm b) : multisetEq a b = true :=
  (C17.multisetEq_iff_cnt a b).2 fun r => C17.cnt_perm h r

/-- irrespective of the order in which bucket members were inserted / are iterated -/
theorem C17_perm_members (a b : List NRanking)
    (h : List.Forall₂ (fun r q => List.Forall₂ (fun x y => x.Perm y) r q) a b) : multisetEq a b = true := by
  refine C17.multisetEq_of_cnt fun r => C17.cnt_forall₂ ?_ r
  induction h with
  | nil => exact List.Forall₂.nil
  | cons hrq _ ih => exact List.Forall₂.cons (C17.sameRankingN_of_perm_members hrq) ih

/-- near misses are unequal: a different number of rankings -/
theorem C17_length (a b : List NRanking) (h : multisetEq a b = true) : a.length = b.length := by
  obtain ⟨b', hp, hf⟩ := C17.multisetEq_matching h
  rw [← hp.length_eq]
  exact C17.forall₂_length hf

/-- near misses are unequal: a ranking of `a` without an equal in `b` -/
theorem C17_member (a b : List NRanking) (h : multisetEq a b = true) (r : NRanking) (hr : r ∈ a) :
    ∃ q ∈ b, sameRankingN r q = true := by
  rw [← C17.cnt_pos_iff, ← (C17.multisetEq_iff_cnt a b).1 h r, C17.cnt_pos_iff]
  exact ⟨r, hr, C17.sameRankingN_refl r⟩

/-- multiplicities matter -/
theorem C17_count (a b : List NRanking) (h : multisetEq a b = true) (r : NRanking) :
    (a.filter fun q => sameRankingN r q).length = (b.filter fun q => sameRankingN r q).length := by
  rw [← C17.cnt_eq_filter, ← C17.cnt_eq_filter]
  exact (C17.multisetEq_iff_cnt a b).1 h r

/-- the members of a bucket in another order: equal -/
example : multisetEq [[[.int 0, .int 8]]] [[[.int 8, .int 0]]] = true := by decide +kernel

/-- the rankings in another order, buckets iterated in another order: equal -/
example : multisetEq [[[.int 0, .int 8], [.int 3]], [[.int 3], [.int 8]]]
    [[[.int 3], [.int 8]], [[.int 8, .int 0], [.int 3]]] = true := by decide +kernel

/-- one element moved to the other bucket: unequal -/
example : multisetEq [[[.int 0, .int 8], [.int 3]]] [[[.int 0], [.int 8, .int 3]]] = false := by decide +kernel

/-- the buckets of a ranking in another order: unequal -/
example : multisetEq [[[.int 0], [.int 8]]] [[[.int 8], [.int 0]]] = false := by decide +kernel

/-- one multiplicity changed (same set of distinct rankings, same number of rankings): unequal -/
example : multisetEq [[[.int 0], [.int 8]], [[.int 0], [.int 8]], [[.int 8], [.int 0]]]
    [[[.int 0], [.int 8]], [[.int 8], [.int 0]], [[.int 8], [.int 0]]] = false := by decide +kernel

/-- one ranking more: unequal -/
example : multisetEq [[[.int 0], [.int 8]]] [[[.int 0], [.int 8]], [[.int 0], [.int 8]]] = false := by decide +kernel

end Corankco
