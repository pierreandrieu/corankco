import Corankco.Lemmas.C02
import Corankco.Spec.Algos
import Batteries.Data.List.Basic
/-
  Invariance of the specification itself: `status`, `pen`, `kemenyOne` see a ranking only through `bucketIdx`
  (`status_map`, `pen_map`, `kemenyOne_map`: stated along a map `f` of the elements, so that a renaming, `f` injective,
  and a change of the rankings alone, `f = id`, are both instances).  So they do not depend on the order of the members
  inside a bucket and commute with an injective renaming of the elements; the same for the universe, the position matrix
  (`getPositions_rename`) and the ingredients of the Borda specification (`unifyRanking`, `bordaSumCount`).
-/
namespace Corankco
open Model Spec
namespace Invariance

theorem bucketIdx_rename {f : Elem → Elem} (hf : Function.Injective f) (r : Ranking) (x : Elem) :
    bucketIdx (r.map fun b => b.map f) (f x) = bucketIdx r x :=
  bucketIdx_map_inj f r x fun _ _ e => hf e

theorem posIn_rename {f : Elem → Elem} (hf : Function.Injective f) (r : Ranking) (x : Elem) :
    posIn (r.map fun b => b.map f) (f x) = posIn r x := by
  induction r with
  | nil => rfl
  | cons b bs ih => simp only [List.map_cons, posIn, ih, mem_map_inj hf, List.length_map]

theorem bucketIdx_members {r r' : Ranking} (h : List.Forall₂ (fun b b' => b.Perm b') r r') (x : Elem) :
    bucketIdx r x = bucketIdx r' x := by
  induction h with
  | nil => rfl
  | cons hb _ ih => simp only [bucketIdx, ih, hb.mem_iff]

theorem flatten_members {r r' : Ranking} (h : List.Forall₂ (fun b b' => b.Perm b') r r') :
    r.flatten.Perm r'.flatten := by
  induction h with
  | nil => exact List.Perm.refl _
  | cons hb _ ih =>
    simp only [List.flatten_cons]
    exact hb.append ih

theorem status_map {r r' : Ranking} {f : Elem → Elem} (h : ∀ x, bucketIdx r' (f x) = bucketIdx r x) (x y : Elem) :
    status r' (f x) (f y) = status r x y := by
  unfold status
  rw [h, h]

theorem pen_map {c c' r r' : Ranking} {f : Elem → Elem} (hc : ∀ x, bucketIdx c' (f x) = bucketIdx c x)
    (hr : ∀ x, bucketIdx r' (f x) = bucketIdx r x) (S : Scheme) (x y : Elem) :
    pen S r' c' (f x) (f y) = pen S r c x y := by
  unfold pen
  rw [hc, hc, status_map hr, status_map hr]

theorem kemenyOne_map {c c' r r' : Ranking} {f : Elem → Elem} (hc : ∀ x, bucketIdx c' (f x) = bucketIdx c x)
    (hr : ∀ x, bucketIdx r' (f x) = bucketIdx r x) (hfl : c'.flatten = c.flatten.map f) (S : Scheme) :
    kemenyOne S c' r' = kemenyOne S c r := by
  unfold kemenyOne
  rw [hfl, pairs_map, List.map_map]
  exact isum_map_congr fun p _ => pen_map hc hr S p.1 p.2

theorem status_rename {f : Elem → Elem} (hf : Function.Injective f) (r : Ranking) (x y : Elem) :
    status (r.map fun b => b.map f) (f x) (f y) = status r x y :=
  status_map (bucketIdx_rename hf r) x y

theorem kemenyOne_rename {f : Elem → Elem} (hf : Function.Injective f) (S : Scheme) (c r : Ranking) :
    kemenyOne S (c.map fun b => b.map f) (r.map fun b => b.map f) = kemenyOne S c r :=
  kemenyOne_map (bucketIdx_rename hf c) (bucketIdx_rename hf r) List.map_flatten.symm S

theorem kemenyOne_input_members (S : Scheme) {r r' : Ranking} (h : List.Forall₂ (fun b b' => b.Perm b') r r')
    (c : Ranking) : kemenyOne S c r = kemenyOne S c r' :=
  kemenyOne_map (f := id) (fun _ => rfl) (bucketIdx_members h) (List.map_id _).symm S

theorem kemenyOne_candidate_members (S : Scheme) (h01 : S.t0 = S.t1) (h34 : S.t3 = S.t4) {c c' : Ranking}
    (h : List.Forall₂ (fun b b' => b.Perm b') c c') (r : Ranking) : kemenyOne S c r = kemenyOne S c' r := by
  unfold kemenyOne
  rw [isum_map_congr fun p _ => pen_map (f := id) (bucketIdx_members h) (fun _ => rfl) S p.1 p.2]
  -- the pairs of a permuted list give the same sum because `pen` is symmetric in the pair when `T` is
  exact isum_pairs_perm (fun x y => pen S r c' x y) (flatten_members h)
    fun x _ y _ => pen_symm S h01 h34 r c' x y

theorem dedup_map {f : Elem → Elem} (hf : Function.Injective f) (l : List Elem) :
    dedup (l.map f) = (dedup l).map f := by
  induction l with
  | nil => rfl
  | cons x xs ih => simp only [List.map_cons, dedup, ih, List.filter_map, Function.comp_def, ne_eq, hf.eq_iff]

theorem univOf_rename {f : Elem → Elem} (hf : Function.Injective f) (D : Dataset) :
    univOf (D.map fun r => r.map fun b => b.map f) = (univOf D).map f := by
  unfold univOf
  rw [← List.map_flatten, ← List.map_flatten, dedup_map hf]

/-- The same matrix, not a renamed one: ids are positions in `univOf`, and the renaming carries the first-appearance
    numbering over. -/
theorem getPositions_rename {f : Elem → Elem} (hf : Function.Injective f) (D : Dataset) :
    getPositions (D.map fun r => r.map fun b => b.map f) = getPositions D := by
  unfold getPositions
  simp only [univOf_rename hf, List.map_map, Function.comp_def, posIn_rename hf]

theorem mem_univOf_rename {f : Elem → Elem} (hf : Function.Injective f) (D : Dataset) (x : Elem) :
    f x ∈ univOf (D.map fun r => r.map fun b => b.map f) ↔ x ∈ univOf D := by
  rw [univOf_rename hf, mem_map_inj hf]

theorem isComplete_rename {f : Elem → Elem} (hf : Function.Injective f) (D : Dataset) :
    isComplete (D.map fun r => r.map fun b => b.map f) = isComplete D := by
  unfold isComplete
  simp only [univOf_rename hf, List.all_map, Function.comp_def, ← List.map_flatten, List.contains_eq_mem,
    mem_map_inj hf]

theorem unifyRanking_rename {f : Elem → Elem} (hf : Function.Injective f) (u : List Elem) (r : Ranking) :
    unifyRanking (u.map f) (r.map fun b => b.map f) = (unifyRanking u r).map fun b => b.map f := by
  unfold unifyRanking
  simp only [List.filter_map, Function.comp_def, ← List.map_flatten, List.contains_eq_mem, mem_map_inj hf,
    List.isEmpty_map]
  split <;> simp

theorem unifiedRankings_rename {f : Elem → Elem} (hf : Function.Injective f) (D : Dataset) :
    unifiedRankings (D.map fun r => r.map fun b => b.map f) =
      (unifiedRankings D).map fun r => r.map fun b => b.map f := by
  simp only [unifiedRankings, univOf_rename hf, List.map_map, Function.comp_def, unifyRanking_rename hf]

theorem bordaScoreIn_rename {f : Elem → Elem} (hf : Function.Injective f) (useBid : Bool) (r : Ranking) (x : Elem) :
    bordaScoreIn useBid (r.map fun b => b.map f) (f x) = bordaScoreIn useBid r x := by
  unfold bordaScoreIn
  rw [bucketIdx_rename hf]
  cases bucketIdx r x with
  | none => rfl
  | some i => simp [← List.map_take, List.map_map, Function.comp_def]

theorem bordaSumCount_rename {f : Elem → Elem} (hf : Function.Injective f) (useBid : Bool) (rs : Dataset) (x : Elem) :
    bordaSumCount useBid (rs.map fun r => r.map fun b => b.map f) (f x) = bordaSumCount useBid rs x := by
  unfold bordaSumCount
  rw [List.foldl_map]
  simp only [bordaScoreIn_rename hf]

theorem nodup_rename {f : Elem → Elem} (hf : Function.Injective f) (D : Dataset) (hD : ∀ r ∈ D, r.flatten.Nodup) :
    ∀ r ∈ (D.map fun r => r.map fun b => b.map f), r.flatten.Nodup := by
  intro r' hr'
  obtain ⟨r, hr, rfl⟩ := List.mem_map.mp hr'
  rw [← List.map_flatten]
  exact nodup_map_of_inj_on (hD r hr) fun _ _ _ _ e => hf e

end Invariance
end Corankco
