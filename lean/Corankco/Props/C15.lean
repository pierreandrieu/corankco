import Corankco.Model.History
/-
  C15 — no call changes the shared objects and no output depends on earlier calls: in the model by construction
  (`hRun_eq`); heap aliasing itself is OBSERVED by the harness, not proved (level: partial).
-/
namespace Corankco
open Model

theorem hRun_eq (s : HState) (ops : List HOp) : hRun s ops = (s, ops.map (hOut s)) := by
  induction ops with
  | nil => rfl
  | cons op ops ih => simp [hRun, hStep, ih]

/-- frame: the state after any history is the initial state -/
theorem C15_frame (s : HState) (ops : List HOp) : (hRun s ops).1 = s := by
  rw [hRun_eq]

/-- history independence: the outputs of a history on shared objects are the outputs on fresh copies -/
theorem C15_history_independent (s : HState) (ops : List HOp) : (hRun s ops).2 = ops.map (hOut s) := by
  rw [hRun_eq]

/-- repeatability: calling the same deterministic operation twice gives the same result -/
theorem C15_repeatable (s : HState) (op : HOp) (pre mid : List HOp) :
    ((hRun s (pre ++ [op] ++ mid ++ [op])).2).getLast? = some (hOut s op) ∧
    ((hRun s (pre ++ [op])).2).getLast? = some (hOut s op) := by
  simp only [hRun_eq, List.map_append, List.map_cons, List.map_nil, List.getLast?_concat, and_self]

example : (hRun ⟨[[[0, 1], [2]], [[2], [0]]], unifying⟩ [.borda false, .copeland, .borda false]).2.length = 3 :=
  rfl

end Corankco
