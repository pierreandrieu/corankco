import Corankco.Lemmas.L4
/-
  The three loops of ParCons and ParFront: ParCons' fold over the components in closed form (`parCons_foldl`); the
  fusion loop, whose result merges blocks of consecutive input groups and, with enough fuel, has all its consecutive
  pairs fully robust (`mergeLoop_spec`); the consistency walk, which answers `consistentSpec` (`consistentLoop_eq`)
  because the buckets that make up a group exactly may be struck out with it (`consistentSpec_group`).
-/
namespace Corankco
open Model Spec
namespace PartLoop

/-! ### ParCons fold -/

theorem parCons_foldl (t : Table) (bound : Nat) (exact aux : List Nat → List (List Nat))
    (comps : List (List Nat)) (acc : ParConsOut) :
    comps.foldl (fun acc scc =>
      if canBeAllTied scc t then
        { acc with consensus := acc.consensus ++ [scc], partition := acc.partition ++ [scc] }
      else if scc.length > bound then
        { consensus := acc.consensus ++ aux scc, optimal := false, partition := acc.partition ++ [scc] }
      else
        { acc with consensus := acc.consensus ++ exact scc, partition := acc.partition ++ [scc] }) acc =
    { consensus := acc.consensus ++
        comps.flatMap fun c => if canBeAllTied c t then [c] else if c.length > bound then aux c else exact c,
      optimal := acc.optimal && !(comps.any fun c => !canBeAllTied c t && decide (c.length > bound)),
      partition := acc.partition ++ comps } := by
  induction comps generalizing acc with
  | nil => simp
  | cons c cs ih =>
    rw [List.foldl_cons, ih]
    by_cases hc : canBeAllTied c t = true
    · simp [hc]
    · by_cases hb : c.length > bound <;> simp [hc, hb]

/-! ### the fusion loop -/

/-- `p` arises from `comps` by concatenating blocks of consecutive groups. -/
def Merges (comps p : List (List Nat)) : Prop :=
  ∃ blocks : List (List (List Nat)), blocks.flatten = comps ∧ (∀ b ∈ blocks, b ≠ []) ∧ p = blocks.map List.flatten

theorem Merges.refl (comps : List (List Nat)) : Merges comps comps :=
  ⟨comps.map fun c => [c], flatten_map_singleton comps, List.forall_mem_map.mpr fun c _ => List.cons_ne_nil c [],
    by simp [Function.comp_def]⟩

theorem Merges.fuse {comps p : List (List Nat)} (h : Merges comps p) {idx : Nat} (hlt : idx + 1 < p.length) :
    Merges comps ((p.set idx (p.getD idx [] ++ p.getD (idx + 1) [])).eraseIdx (idx + 1)) := by
  obtain ⟨blocks, h1, h2, rfl⟩ := h
  obtain ⟨pre, b1, b2, post, rfl, rfl⟩ := exists_eq_append_cons_cons (l := blocks) (by simpa using hlt)
  refine ⟨pre ++ (b1 ++ b2) :: post, by simpa using h1, ?_, ?_⟩
  · simp only [List.forall_mem_append, List.forall_mem_cons] at h2 ⊢
    exact ⟨h2.1, by simp [h2.2.1], h2.2.2.2⟩
  · simp [List.eraseIdx_append_of_length_le, List.getD_eq_getElem?_getD]

/-- The fuel bound `hf`: the measure `2 * length - idx` falls at every turn, since a fusion shortens the list and steps
    back at most one place. -/
theorem mergeLoop_spec (t : Table) (comps : List (List Nat)) (fuel idx : Nat) (p : List (List Nat))
    (hm : Merges comps p) (hf : 2 * p.length + 1 ≤ fuel + idx)
    (hr : ∀ k, k < idx → k + 1 < p.length → fullyRobust t (p.getD k []) (p.getD (k + 1) []) = true) :
    Merges comps (mergeLoop t fuel idx p) ∧ ∀ k, k + 1 < (mergeLoop t fuel idx p).length →
      fullyRobust t ((mergeLoop t fuel idx p).getD k []) ((mergeLoop t fuel idx p).getD (k + 1) []) = true := by
  fun_induction mergeLoop t fuel idx p with
  | case1 idx p => exact ⟨hm, fun k hk => hr k (by omega) hk⟩
  | case2 fuel idx p hlt s1 s2 hnr ih =>
    refine ih (hm.fuse hlt) (by rw [List.length_eraseIdx, List.length_set, if_pos hlt]; omega) fun k hk1 _ => ?_
    have hk : k + 1 < idx := Nat.add_lt_of_lt_sub hk1
    rw [getD_eraseIdx_set_of_lt (Nat.lt_of_succ_lt hk), getD_eraseIdx_set_of_lt hk]
    exact hr k (Nat.lt_of_succ_lt hk) (Nat.lt_trans hk (Nat.lt_of_succ_lt hlt))
  | case3 fuel idx p hlt s1 s2 hr' ih =>
    refine ih hm (Nat.add_right_comm fuel 1 idx ▸ hf) fun k hk1 hk2 => ?_
    by_cases hk : k = idx
    · rw [Bool.not_eq_true, Bool.not_eq_false'] at hr'
      exact hk ▸ hr'
    · exact hr k (Nat.lt_of_le_of_ne (Nat.le_of_lt_succ hk1) hk) hk2
  | case4 fuel idx p hlt =>
    exact ⟨hm, fun k hk => hr k (Nat.lt_of_succ_lt_succ (Nat.lt_of_lt_of_le hk (Nat.not_lt.mp hlt))) hk⟩

theorem Merges.flatten_eq {comps p : List (List Nat)} (h : Merges comps p) : p.flatten = comps.flatten := by
  obtain ⟨blocks, rfl, _, rfl⟩ := h
  exact List.flatten_flatten.symm

theorem Merges.ne_nil {comps p : List (List Nat)} (h : Merges comps p) (hne : ∀ c ∈ comps, c ≠ []) :
    ∀ g ∈ p, g ≠ [] := by
  obtain ⟨blocks, rfl, hb, rfl⟩ := h
  intro g hg e
  obtain ⟨b, hbm, rfl⟩ := List.mem_map.mp hg
  obtain ⟨c, hcb⟩ := List.exists_mem_of_ne_nil _ (hb b hbm)
  exact hne c (List.mem_flatten.mpr ⟨b, hbm, hcb⟩) (List.flatten_eq_nil_iff.mp e c hcb)

theorem Merges.noBack {comps p : List (List Nat)} (h : Merges comps p) {t : Table} (hnb : NoBack t comps) :
    NoBack t p := by
  obtain ⟨blocks, rfl, _, rfl⟩ := h
  exact pairwise_iff_pairs.mp (pairwise_map_flatten blocks (pairwise_iff_pairs.mpr hnb))

theorem consecRobust_of_getD (t : Table) (l : List (List Nat))
    (h : ∀ k, k + 1 < l.length → fullyRobust t (l.getD k []) (l.getD (k + 1) []) = true) : ConsecRobust t l := by
  induction l with
  | nil => trivial
  | cons g1 l ih =>
    cases l with
    | nil => trivial
    | cons g2 rest =>
      refine ⟨?_, ih fun k hk => h (k + 1) (Nat.succ_lt_succ hk)⟩
      have h0 : fullyRobust t g1 g2 = true := h 0 (Nat.succ_lt_succ (Nat.succ_pos _))
      simpa only [fullyRobust, isRobust, List.all_eq_true, Bool.and_eq_true, decide_eq_true_eq] using h0

/-! ### the consistency walk -/

theorem seeBucket_eq (g b : List Elem) (st : Bool × Int) :
    seeBucket g b st = (st.1 && b.all (g.contains ·), st.2 - b.countP (g.contains ·)) := by
  unfold seeBucket
  induction b generalizing st with
  | nil => simp
  | cons e b ih =>
    rw [List.foldl_cons, ih]
    by_cases he : e ∈ g
    · simp [he]
      rw [Int.sub_sub, Int.add_comm]
    · simp [he]

theorem consistentLoop_stop {P : List (List Elem)} {c : Ranking} {fuel : Nat} {flag : Bool} {idb idp : Nat}
    {nb : Option Int} (h : (flag && decide (idp < P.length)) = false) :
    consistentLoop P c (fuel + 1) flag idb idp nb = some flag := by
  rw [consistentLoop, h]
  rfl

/-- `n` elements of the group `P[idp]` are still to see. -/
theorem consistentLoop_step (P : List (List Elem)) (c : Ranking) (fuel idb idp : Nat) (nb : Option Int)
    (hidp : idp < P.length) (hidb : idb < c.length) (n : Int) (hnb : nb.getD (P[idp].length : Int) = n) (hn : 0 < n) :
    consistentLoop P c (fuel + 1) true idb idp nb =
      if n - c[idb].countP (P[idp].contains ·) = 0 then
        consistentLoop P c fuel (c[idb].all (P[idp].contains ·)) (idb + 1) (idp + 1) none
      else consistentLoop P c fuel (c[idb].all (P[idp].contains ·)) (idb + 1) idp
        (some (n - c[idb].countP (P[idp].contains ·))) := by
  subst hnb
  rw [consistentLoop]
  cases nb <;> simp at hn <;> simp [seeBucket_eq, hidp, hidb, hn]

def Before (c : Ranking) (x y : Elem) : Prop :=
  ∃ i j, bucketIdx c x = some i ∧ bucketIdx c y = some j ∧ i < j

theorem before_iff (c : Ranking) (x y : Elem) :
    (match bucketIdx c x, bucketIdx c y with
      | some i, some j => decide (i < j)
      | _, _ => false) = true ↔ Before c x y := by
  unfold Before
  cases bucketIdx c x <;> cases bucketIdx c y <;> simp

theorem consistentSpec_iff (P : List (List Elem)) (c : Ranking) :
    consistentSpec P c = true ↔
      (∀ x, x ∈ P.flatten ↔ x ∈ c.flatten) ∧
      P.Pairwise fun g1 g2 => ∀ x ∈ g1, ∀ y ∈ g2, Before c x y := by
  unfold consistentSpec
  simp only [Bool.and_eq_true, L4.sameSet_iff, List.all_eq_true, pairwise_iff_pairs]
  exact and_congr_right fun _ =>
    forall₂_congr fun p _ => forall₂_congr fun x _ => forall₂_congr fun y _ => before_iff c x y

theorem before_append_right {bl rest : Ranking} {x y : Elem} (hx : x ∉ bl.flatten) (hy : y ∉ bl.flatten) :
    Before (bl ++ rest) x y ↔ Before rest x y := by
  unfold Before
  rw [bucketIdx_append_right hx, bucketIdx_append_right hy]
  cases bucketIdx rest x <;> cases bucketIdx rest y <;> simp

theorem before_append_left_right {bl rest : Ranking} {x y : Elem} (hx : x ∈ bl.flatten) (hy : y ∉ bl.flatten)
    (hy' : y ∈ rest.flatten) : Before (bl ++ rest) x y := by
  obtain ⟨i, hi⟩ := exists_bucketIdx_eq_some hx
  obtain ⟨j, hj⟩ := exists_bucketIdx_eq_some hy'
  refine ⟨i, j + bl.length, ?_, ?_, ?_⟩
  · rw [bucketIdx_append_left hx, hi]
  · rw [bucketIdx_append_right hy, hj]; rfl
  · exact Nat.lt_add_left j (bucketIdx_lt_length hi)

theorem pairwise_before_append {bl rest : Ranking} {Ps : List (List Elem)} (h : ∀ x ∈ Ps.flatten, x ∉ bl.flatten) :
    (Ps.Pairwise fun g1 g2 => ∀ x ∈ g1, ∀ y ∈ g2, Before (bl ++ rest) x y) ↔
      Ps.Pairwise fun g1 g2 => ∀ x ∈ g1, ∀ y ∈ g2, Before rest x y :=
  List.Pairwise.iff_of_mem fun hg1 hg2 => forall₂_congr fun x hx => forall₂_congr fun y hy =>
    before_append_right (h x (List.mem_flatten.mpr ⟨_, hg1, hx⟩)) (h y (List.mem_flatten.mpr ⟨_, hg2, hy⟩))

theorem consistentSpec_nil (cs : Ranking) (h : cs.flatten = []) : consistentSpec [] cs = true :=
  (consistentSpec_iff [] cs).mpr (by simp [h])

theorem consistentSpec_group {g : List Elem} {Ps : List (List Elem)} {seen cs : Ranking}
    (hnd : (g :: Ps).flatten.Nodup) (hc : (seen.flatten ++ cs.flatten).Nodup) (hs : ∀ x, x ∈ seen.flatten ↔ x ∈ g) :
    consistentSpec (g :: Ps) (seen ++ cs) = consistentSpec Ps cs := by
  obtain ⟨_, _, hgP⟩ := List.nodup_append.mp hnd
  obtain ⟨_, _, hsc⟩ := List.nodup_append.mp hc
  have hPs : ∀ x ∈ Ps.flatten, x ∉ seen.flatten := fun x hx h => hgP x ((hs x).mp h) x hx rfl
  have hmem : (∀ x, x ∈ (g :: Ps).flatten ↔ x ∈ (seen ++ cs).flatten) ↔ ∀ x, x ∈ Ps.flatten ↔ x ∈ cs.flatten := by
    refine forall_congr' fun x => ?_
    simp only [List.flatten_cons, List.flatten_append, List.mem_append, ← hs]
    by_cases hx : x ∈ seen.flatten
    · exact iff_of_true (iff_of_true (.inl hx) (.inl hx))
        (iff_of_false (fun h => hPs x h hx) fun h => hsc x hx x h rfl)
    · simp [hx]
  rw [Bool.eq_iff_iff, consistentSpec_iff, consistentSpec_iff, List.pairwise_cons, pairwise_before_append hPs, hmem]
  exact and_congr_right fun hm => and_iff_right fun g2 hg2 x hx y hy =>
    have hy' := List.mem_flatten.mpr ⟨g2, hg2, hy⟩
    before_append_left_right ((hs x).mpr hx) (hPs y hy') ((hm y).mp hy')

theorem consistentSpec_false {g : List Elem} (Ps : List (List Elem)) {seen : Ranking} {b : Bucket} (cs : Ranking)
    (hg : g.Nodup) (hs : ∀ x ∈ seen.flatten, x ∈ g) (hlt : seen.flatten.length < g.length)
    (y : Elem) (hy : y ∈ b) (hyg : y ∉ g) : consistentSpec (g :: Ps) (seen ++ b :: cs) = false := by
  rw [Bool.eq_false_iff, Ne, consistentSpec_iff]
  rintro ⟨hmem, hpw⟩
  -- an unseen member `x` of the group is not before `y`, which stands in the first bucket after `seen`
  obtain ⟨x, hx, hxs⟩ : ∃ x ∈ g, x ∉ seen.flatten := Classical.byContradiction fun h =>
    Nat.not_le_of_lt hlt (hg.length_le_of_subset fun x hx => Classical.byContradiction fun hxs => h ⟨x, hx, hxs⟩)
  have hyP := (hmem y).mpr (by simp [hy])
  rw [List.flatten_cons, List.mem_append] at hyP
  obtain ⟨g2, hg2, hy2⟩ := List.mem_flatten.mp (hyP.resolve_left hyg)
  obtain ⟨i, j, _, hj, hij⟩ := (before_append_right hxs fun h => hyg (hs y h)).mp
    ((List.pairwise_cons.mp hpw).1 g2 hg2 x hx y hy2)
  simp [bucketIdx, hy] at hj
  exact Nat.not_lt_zero i (hj ▸ hij)

/-- Inside a group the answer stays the specification for the state in which the group was begun: `seen` are the
    buckets consumed since (all inside the group, not yet all of it) and the counter is what is left of the group. -/
theorem consistentLoop_eq (P : List (List Elem)) (c : Ranking) (hP : ∀ g ∈ P, g ≠ []) (fuel : Nat) :
    ∀ (idb : Nat), (c.drop idb).length + 1 ≤ fuel →
    ∀ (idp : Nat) (nb : Option Int) (seen : Ranking) (hidp : idp < P.length),
    (∀ x ∈ seen.flatten, x ∈ P[idp]) → seen.flatten.length < P[idp].length →
    nb.getD (P[idp].length : Int) = P[idp].length - seen.flatten.length →
    (P[idp] :: P.drop (idp + 1)).flatten.Nodup → (seen ++ c.drop idb).flatten.Nodup →
    (seen ++ c.drop idb).flatten.length = (P[idp] :: P.drop (idp + 1)).flatten.length →
    consistentLoop P c fuel true idb idp nb =
      some (consistentSpec (P[idp] :: P.drop (idp + 1)) (seen ++ c.drop idb)) := by
  induction fuel with
  | zero => exact fun _ hf => absurd hf (Nat.not_succ_le_zero _)
  | succ fuel ih =>
    intro idb hf idp nb seen hidp hs hlt hn hnd hc hlen
    have hidb : idb < c.length := by
      refine Nat.lt_of_not_le fun h => ?_
      rw [List.drop_eq_nil_of_le h, List.append_nil, List.flatten_cons, List.length_append] at hlen
      exact Nat.not_lt.mpr (Nat.le_add_right _ _) (hlen ▸ hlt)
    rw [consistentLoop_step P c fuel idb idp nb hidp hidb _ hn (Int.sub_pos.mpr (Int.ofNat_lt.mpr hlt))]
    rw [List.drop_eq_getElem_cons hidb] at hc hlen hf ⊢
    obtain _ | fuel := fuel
    · exact absurd (Nat.le_of_succ_le_succ hf) (Nat.not_succ_le_zero _)
    have hg := (List.nodup_append.mp hnd).1
    by_cases hb : c[idb].all (P[idp].contains ·) = true
    · rw [hb, List.countP_eq_length.mpr (List.all_eq_true.mp hb)]
      rw [List.append_cons] at hc hlen ⊢
      have e : (seen ++ [c[idb]]).flatten = seen.flatten ++ c[idb] := by simp
      have hs' : ∀ x ∈ (seen ++ [c[idb]]).flatten, x ∈ P[idp] := fun x hx =>
        (List.mem_append.mp (e ▸ hx)).elim (hs x) fun hx => List.contains_iff_mem.mp (List.all_eq_true.mp hb x hx)
      rw [List.flatten_append] at hc hlen
      have hnd' := (List.nodup_append.mp hc).1
      have hle := hnd'.length_le_of_subset hs'
      -- the test becomes `|P[idp]| - |seen ++ [c[idb]]| = 0`
      rw [Int.sub_sub, ← Int.natCast_add, ← List.length_append, ← e]
      split
      next h0 =>
        -- the group is complete: it is struck out with its buckets, and the next group begins or none is left
        have hp := perm_of_nodup_subset_length hnd' hg hs' (Nat.le_of_eq (Int.ofNat.inj (Int.sub_eq_zero.mp h0)))
        rw [consistentSpec_group hnd hc fun x => hp.mem_iff]
        rw [List.length_append, hp.length_eq, List.flatten_cons, List.length_append] at hlen
        by_cases hidp' : idp + 1 < P.length
        · rw [List.drop_eq_getElem_cons hidp'] at hnd hlen ⊢
          exact ih _ (Nat.le_of_succ_le_succ hf) _ none [] hidp' (fun _ h => nomatch h)
            (List.length_pos_iff.mpr (hP _ (List.getElem_mem _))) (Int.sub_zero _).symm
            (List.nodup_append.mp hnd).2.1 (List.nodup_append.mp hc).2.1 (Nat.add_left_cancel hlen)
        · rw [List.drop_eq_nil_of_le (Nat.not_lt.mp hidp')] at hlen ⊢
          rw [consistentLoop_stop (flag := true) (decide_eq_false hidp'),
            consistentSpec_nil _ (List.length_eq_zero_iff.mp (Nat.add_left_cancel hlen))]
      next h0 =>
        exact ih _ (Nat.le_of_succ_le_succ hf) _ _ _ hidp hs'
          (Nat.lt_of_le_of_ne hle fun e' => h0 (e' ▸ Int.sub_self _)) rfl hnd (List.flatten_append ▸ hc)
          (List.flatten_append ▸ hlen)
    · obtain ⟨y, hy, hyg⟩ := List.all_eq_false.mp (Bool.eq_false_iff.mpr hb)
      rw [Bool.eq_false_iff.mpr hb]
      simp only [consistentLoop_stop (flag := false) rfl, ite_self]
      rw [consistentSpec_false _ _ hg hs hlt y hy fun h => hyg (List.contains_iff_mem.mpr h)]

end PartLoop
end Corankco
