import Corankco.Lemmas.Dataset
import Corankco.Props.C01
/-
  PickAPerm.  The scan keeps `Best` on the scanned prefix (`pickScan_best`).  The scanned rankings are the unified
  inputs (`inputs_eq`), well formed (`wellFormed_inputs`) and valid candidates of `getScore` (`inputs_score`, by
  `C01_score` of Props/C01), so the model scans them with the Kemeny score of the definition (`pickAPerm_eq`).
-/
namespace Corankco
namespace C10
open Model

/-- What the scan holds after the prefix `L`: `acc` lists rankings of `L` of score `m`, the least score in `L`;
    a single one on request, otherwise all of them. -/
def Best {α : Type} (score : α → Int) (amo : Bool) (L : List α) (m : Int) (acc : List α) : Prop :=
  acc ≠ [] ∧ (∀ r ∈ acc, r ∈ L ∧ score r = m) ∧ (∀ r ∈ L, m ≤ score r) ∧
    (amo = true → acc.length = 1) ∧ (amo = false → ∀ r ∈ L, score r = m → r ∈ acc)

theorem pickScan_best {α : Type} (score : α → Int) (amo : Bool) (l : List α) :
    ∀ (L : List α) (m : Int) (acc : List α), Best score amo L m acc →
      ∃ m' acc', pickScan score amo l (some (m, acc)) = some (m', acc') ∧ Best score amo (L ++ l) m' acc' := by
  induction l with
  | nil => exact fun L m acc h => ⟨m, acc, rfl, by simpa using h⟩
  | cons a rs ih =>
    intro L m acc ⟨hne, hmem, hmin, hone, hall⟩
    have ha : a ∈ L ++ [a] := List.mem_append_right _ (List.mem_singleton_self a)
    have hmem' : ∀ r ∈ acc, r ∈ L ++ [a] ∧ score r = m := fun r hr =>
      ⟨List.mem_append_left _ (hmem r hr).1, (hmem r hr).2⟩
    -- whichever state the step on `a` leaves, it is `Best` on `L ++ [a]`: the five clauses in order
    rw [List.append_cons]
    simp only [pickScan]
    by_cases h1 : score a < m
    · rw [if_pos h1]
      refine ih _ _ _ ⟨List.cons_ne_nil _ _, List.forall_mem_singleton.mpr ⟨ha, rfl⟩,
        forall_mem_snoc (fun r hr => Int.le_trans (Int.le_of_lt h1) (hmin r hr)) (Int.le_refl _), fun _ => rfl,
        fun _ => forall_mem_snoc (fun r hr hs => ?_) fun _ => List.mem_singleton_self a⟩
      exact absurd (hs ▸ hmin r hr) (Int.not_le.mpr h1)
    · rw [if_neg h1]
      by_cases h2 : score a = m ∧ (!amo) = true
      · rw [if_pos h2]
        have hamo : amo = false := by simpa using h2.2
        exact ih _ _ _ ⟨List.append_ne_nil_of_right_ne_nil _ (List.cons_ne_nil _ _),
          forall_mem_snoc hmem' ⟨ha, h2.1⟩, forall_mem_snoc hmin (Int.le_of_eq h2.1.symm),
          fun ht => absurd (hamo.symm.trans ht) Bool.false_ne_true,
          fun _ => forall_mem_snoc (fun r hr hs => List.mem_append_left _ (hall hamo r hr hs))
            fun _ => List.mem_append_right _ (List.mem_singleton_self a)⟩
      · rw [if_neg h2]
        exact ih _ _ _ ⟨hne, hmem', forall_mem_snoc hmin (Int.not_lt.mp h1), hone,
          fun hf => forall_mem_snoc (hall hf) fun hs => absurd ⟨hs, by simp [hf]⟩ h2⟩

theorem sameRanking_refl (r : Ranking) : Spec.sameRanking r r = true := by
  have : r.zip r = r.map fun b => (b, b) := by simpa using List.zip_map' (f := id) (g := id) (l := r)
  simp [Spec.sameRanking, this, List.all_map]

/-- the rankings PickAPerm scans -/
def inputs (D : Dataset) : Dataset := if isComplete D then D else unifiedRankings D

theorem inputs_eq (D : Dataset) : inputs D = unifiedRankings D :=
  ite_complete_eq_unified D

theorem inputs_ne_nil {D : Dataset} (hne : D ≠ []) : inputs D ≠ [] := by
  rw [inputs_eq]
  simpa [unifiedRankings] using hne

theorem inputs_score (S : Scheme) (hS : S.Valid) (D : Dataset) (hD : ∀ r ∈ D, r.flatten.Nodup) :
    ∀ c ∈ inputs D, getScore S c D = .ok (Spec.kemeny S D c) := by
  intro c hc
  rw [inputs_eq] at hc
  obtain ⟨r, hr, rfl⟩ := List.mem_map.mp hc
  exact C01_score S hS D _ (nodup_unifyRanking (nodup_univOf D) (hD r hr)) hD
    (C01.covers_iff.mpr fun x => (mem_unifyRanking hr x).mpr)

theorem wellFormed_inputs (D : Dataset) (hD : ∀ r ∈ D, r.flatten.Nodup) (hDne : ∀ r ∈ D, ∀ b ∈ r, b ≠ []) :
    ∀ c ∈ inputs D, Spec.wellFormedRanking (univOf D) c = true := by
  intro c hc
  rw [inputs_eq] at hc
  obtain ⟨r, hr, rfl⟩ := List.mem_map.mp hc
  exact wellFormed_unifyRanking hr (hDne r hr) (hD r hr)

theorem pickScan_congr {α : Type} {f g : α → Int} (amo : Bool) {l : List α} (h : ∀ r ∈ l, f r = g r)
    (st : Option (Int × List α)) : pickScan f amo l st = pickScan g amo l st := by
  induction l generalizing st with
  | nil => rfl
  | cons a rs ih =>
    have ih := fun st => ih (fun r hr => h r (List.mem_cons_of_mem _ hr)) st
    rcases st with _ | ⟨m, acc⟩ <;> simp only [pickScan, h a (List.mem_cons_self ..), ih]

theorem pickAPerm_eq {amo : Bool} {S : Scheme} (hS : S.Valid) {D : Dataset} (hD : ∀ r ∈ D, r.flatten.Nodup) :
    pickAPerm amo S D =
      if isComplete D || isEquivalentTo S unifying then
        match pickScan (Spec.kemeny S D) amo (inputs D) none with
        | none => .ok ([], none)
        | some (m, acc) => .ok (acc, some m)
      else .error .incompatible := by
  -- the score on the left of `pickScan_congr` is the model's, found by `rfl`
  rw [← pickScan_congr amo ?_ none]
  · unfold pickAPerm
    rw [← Bool.not_or]
    cases isComplete D || isEquivalentTo S unifying <;> rfl
  · intro r hr
    simp only [inputs_score S hS D hD r hr]

end C10
end Corankco
