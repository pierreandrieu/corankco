import Corankco.Lemmas.L4
import Corankco.Lemmas.PartLoop
import Corankco.Props.C06
/-
  C07 — the ParFront partition is respected by every optimal consensus (`C07_parfront`).  Along a partition without back
  arcs every optimum pays `bef` on every cross pair (`optimal_cross_bef`), so where consecutive groups are fully robust
  it respects the partition (`C07_all_optima`); the (repaired) fusion loop returns such a partition (`C07_merge_post`).
  The library's own consistency test decides exactly that relation (`C07_consistent_iff`).
-/
namespace Corankco
open Model Spec

/-- along a partition without back arcs every optimum pays `bef` on every cross pair -/
theorem optimal_cross_bef (t : Table) (n : Nat) (hm : MirrorT t n) (groups : List (List Nat))
    (hp : isPartitionOf n groups = true) (hnb : NoBack t groups) (v : List Int) (hv : Optimal t n v) :
    groups.Pairwise fun g1 g2 => ∀ i ∈ g1, ∀ j ∈ g2, sel t v i j = t.bef i j := by
  obtain ⟨hl, ho⟩ := hv
  -- the regrouping `v'` pays the same inside the groups and `bef` across; `v` pays no more in total and no less than
  -- `bef` on any cross pair
  obtain ⟨v', hl', hr', _, hc⟩ := L4_regroup t n hm groups hp hnb v hl
  have hs := ho v' hl'
  rw [PartSum.scoreVec_eq_add_crossSum hm hp hl, PartSum.scoreVec_eq_add_crossSum hm hp hl',
    PartSum.crossSum_of_respects hr', isum_map_congr fun g hg => scoreIds_congr t g v' v (hc g hg)] at hs
  exact pairwise_iff_pairs.mpr fun p hpp i hi j hj =>
    (PartSum.crossSum_eq_of_le (PartSum.bef_le_sel hnb v) (Int.le_of_add_le_add_left hs) p hpp i hi j hj).symm

/-- C07: a partition without back arcs whose consecutive groups are fully robust is respected by EVERY optimum -/
theorem C07_all_optima (t : Table) (n : Nat) (hm : MirrorT t n) (groups : List (List Nat))
    (hp : isPartitionOf n groups = true) (hnb : NoBack t groups) (hr : ConsecRobust t groups)
    (v : List Int) (hv : Optimal t n v) : RespectsI groups v := by
  have hne := L4.partition_ne_nil hp
  have hbef := optimal_cross_bef t n hm groups hp hnb v hv
  clear hp hnb
  suffices h : groups.Pairwise fun g1 g2 => ∀ i ∈ g1, ∀ j ∈ g2, v.getD i 0 < v.getD j 0 from
    pairwise_iff_pairs.mp h
  -- along the list: the first group is before the second since `bef` is strictly cheapest there, and before the
  -- later ones through a member of the second
  induction groups with
  | nil => exact .nil
  | cons g1 rest ih =>
    obtain ⟨hb1, hbef⟩ := List.pairwise_cons.mp hbef
    cases rest with
    | nil => exact List.pairwise_singleton _ _
    | cons g2 rest =>
      have ih := ih hr.2 (fun g hg => hne g (List.mem_cons_of_mem _ hg)) hbef
      have h12 : ∀ i ∈ g1, ∀ j ∈ g2, v.getD i 0 < v.getD j 0 := fun i hi j hj =>
        lt_of_sel_eq_bef (hb1 g2 (List.mem_cons_self ..) i hi j hj) (hr.1 i hi j hj).1 (hr.1 i hi j hj).2
      refine List.pairwise_cons.mpr ⟨fun g hg i hi j hj => ?_, ih⟩
      rcases List.mem_cons.mp hg with rfl | hg
      · exact h12 i hi j hj
      · obtain ⟨k, hk⟩ := List.exists_mem_of_ne_nil _ (hne g2 (by simp))
        exact Int.lt_trans (h12 i hi k hk) ((List.pairwise_cons.mp ih).1 g hg k hk j hj)

/-- the fusion loop, with the fuel `parFront` gives it, has really finished: every pair of consecutive groups of the
    result is fully robust, and the result merges blocks of consecutive input groups without reordering -/
theorem C07_merge_post (t : Table) (comps : List (List Nat)) :
    let pf := parFront t comps
    (∀ k, k + 1 < pf.length → fullyRobust t (pf.getD k []) (pf.getD (k + 1) []) = true) ∧
    pf.flatten = comps.flatten ∧
    (∃ blocks : List (List (List Nat)), blocks.flatten = comps ∧ (∀ b ∈ blocks, b ≠ []) ∧ pf = blocks.map List.flatten) := by
  obtain ⟨hb, hr⟩ := PartLoop.mergeLoop_spec t comps (2 * comps.length + 2) 0 comps (.refl comps) (Nat.le_succ _)
    fun _ h => nomatch h
  exact ⟨hr, hb.flatten_eq, hb⟩

/-- consecutive groups of the result are fully robust (`ConsecRobust`), and groups stay non-empty when the inputs are -/
theorem C07_merge_consec (t : Table) (comps : List (List Nat)) (hne : ∀ c ∈ comps, c ≠ []) :
    ConsecRobust t (parFront t comps) ∧ (∀ g ∈ parFront t comps, g ≠ []) := by
  obtain ⟨h1, _, hb⟩ := C07_merge_post t comps
  exact ⟨PartLoop.consecRobust_of_getD t _ h1, PartLoop.Merges.ne_nil hb hne⟩

/-- merging consecutive groups keeps "no back arc" -/
theorem C07_merge_noback (t : Table) (comps : List (List Nat)) (h : NoBack t comps) : NoBack t (parFront t comps) :=
  PartLoop.Merges.noBack (C07_merge_post t comps).2.2 h

/-- `C07_consistent_iff` as soon as the fuel exceeds the number of buckets, and without `hcne`: empty consensus buckets
    are harmless -/
theorem C07_consistent_iff_strong (P : List (List Elem)) (c : Ranking)
    (hP : ∀ g ∈ P, g ≠ []) (hPd : P.flatten.Nodup) (hc : c.flatten.Nodup)
    (fuel : Nat) (hf : c.length + 1 ≤ fuel) :
    consistentWith P c fuel = some (consistentSpec P c) := by
  obtain _ | fuel := fuel
  · exact absurd hf (Nat.not_succ_le_zero _)
  rw [consistentWith, dedup_of_nodup hPd, dedup_of_nodup hc]
  by_cases hlen : c.flatten.length = P.flatten.length
  · rw [beq_iff_eq.mpr hlen]
    cases P with
    | nil => rw [PartLoop.consistentLoop_stop rfl, PartLoop.consistentSpec_nil c (List.length_eq_zero_iff.mp hlen)]
    | cons g Ps =>
      exact PartLoop.consistentLoop_eq (g :: Ps) c hP _ 0 hf 0 none [] (Nat.succ_pos _) (fun _ h => nomatch h)
        (List.length_pos_iff.mpr (hP g List.mem_cons_self)) (Int.sub_zero _).symm hPd hc hlen
  · -- the walk stops at once with `false`; the specification asks for the same elements, so for as many
    rw [beq_false_of_ne hlen, PartLoop.consistentLoop_stop rfl, Bool.eq_false_iff.mpr fun h => hlen
      ((List.perm_ext_iff_of_nodup hPd hc).mpr ((PartLoop.consistentSpec_iff P c).mp h).1).length_eq.symm]

/-- the consistency walk, on an ordered partition (non-empty disjoint groups) and a consensus (non-empty disjoint
    buckets), terminates within `2 * (|P| + |c|) + 4` turns and returns true exactly for: same element set, and every
    element of an earlier group in a strictly earlier bucket than every element of a later group -/
theorem C07_consistent_iff (P : List (List Elem)) (c : Ranking)
    (hP : ∀ g ∈ P, g ≠ []) (hPd : P.flatten.Nodup) (hc : c.flatten.Nodup) (hcne : ∀ b ∈ c, b ≠ [])
    (fuel : Nat) (hf : 2 * (P.length + c.length) + 4 ≤ fuel) :
    consistentWith P c fuel = some (consistentSpec P c) := by
  have _ := hcne  -- not needed: see `C07_consistent_iff_strong`
  exact C07_consistent_iff_strong P c hP hPd hc fuel (by omega)

/-- the fusion loop returns a partition of the same ids into non-empty groups -/
theorem C07_parfront_partition (t : Table) (n : Nat) (comps : List (List Nat))
    (hp : isPartitionOf n comps = true) : isPartitionOf n (parFront t comps) = true := by
  rw [L4.isPartitionOf_iff] at hp ⊢
  rw [show (parFront t comps).flatten = comps.flatten from (C07_merge_post t comps).2.1]
  exact ⟨(C07_merge_consec t comps hp.1).2, hp.2⟩

/-- C07: every optimal consensus ranks every element of an earlier ParFront group strictly before every element of a
    later one (components in topological order: igraph's contract) -/
theorem C07_parfront (t : Table) (n : Nat) (hm : MirrorT t n) (comps : List (List Nat))
    (h : isTopoSCC t n comps = true) (v : List Int) (hv : Optimal t n v) :
    RespectsI (parFront t comps) v := by
  have hp := L4.isTopoSCC_partition h
  exact C07_all_optima t n hm (parFront t comps) (C07_parfront_partition t n comps hp)
    (C07_merge_noback t comps (C06_graph t n hm comps h)) (C07_merge_consec t comps (L4.partition_ne_nil hp)).1 v hv

end Corankco
