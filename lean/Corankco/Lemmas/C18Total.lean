import Corankco.Model.Parse
/-
  Binds, folds and branches in `Except PErr` that do not return `outOfFuel` when their parts do not (namespace `C18`).
-/
namespace Corankco
namespace C18
open Model

theorem bind_ne_fuel {α β : Type} {x : Except PErr α} {f : α → Except PErr β} (hx : x ≠ .error .outOfFuel)
    (hf : ∀ a, f a ≠ .error .outOfFuel) : x >>= f ≠ .error .outOfFuel := by
  cases x with
  | error e => intro h; cases h; exact hx rfl
  | ok a => exact hf a

theorem foldlM_ne_fuel {α β : Type} (f : β → α → Except PErr β) (hf : ∀ b a, f b a ≠ .error .outOfFuel)
    (l : List α) (b : β) : l.foldlM f b ≠ .error .outOfFuel := by
  induction l generalizing b with
  | nil => simp [pure, Except.pure]
  | cons a l ih => rw [List.foldlM_cons]; exact bind_ne_fuel (hf b a) ih

theorem mapM_ne_fuel {α β : Type} {f : α → Except PErr β} (hf : ∀ a, f a ≠ .error .outOfFuel)
    (l : List α) : l.mapM f ≠ .error .outOfFuel := by
  induction l with
  | nil => simp [pure, Except.pure]
  | cons a l ih =>
    rw [List.mapM_cons]
    exact bind_ne_fuel (hf a) fun b => bind_ne_fuel ih fun bs => by simp [pure, Except.pure]

theorem ite_ne_fuel {α : Type} {c : Prop} [Decidable c] {x y : Except PErr α} (hx : x ≠ .error .outOfFuel)
    (hy : y ≠ .error .outOfFuel) : (if c then x else y) ≠ .error .outOfFuel := by
  split <;> assumption

end C18
end Corankco
