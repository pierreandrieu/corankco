import Corankco.Lemmas.WeakOrders
import Corankco.Lemmas.PartLoop
import Corankco.Lemmas.PartSum
import Corankco.Lemmas.Compose
import Corankco.Lemmas.SubTable
/-
  C06 — ParCons: the partition admits an optimum; the optimality flag is truthful.  igraph's components (in topological
  order, `isTopoSCC`: assumed, and checked on every sample) and the sub-solvers are parameters.  Some optimum respects
  the components (`C06_partition`, by L4 restrict-and-concatenate, `L4_regroup`); a key vector that respects them and
  is optimal on each is a global optimum (`C06_optimal_of_components`); so is the consensus when the mark is set and
  the exact sub-solver is optimal on every component it is given (`C06_flag_truthful`, from `C06d.concat_optimal`).
  The statements at the level of a dataset are in Props/C06f.lean.
-/
namespace Corankco
open Model Spec

/-- the graph's "no arc from a later component to an earlier one" is the no-back hypothesis -/
theorem C06_graph (t : Table) (n : Nat) (hm : MirrorT t n) (comps : List (List Nat))
    (h : isTopoSCC t n comps = true) : NoBack t comps := by
  simp only [isTopoSCC, Bool.and_eq_true, List.all_eq_true] at h
  obtain ⟨⟨hp, _⟩, hall⟩ := h
  intro p hpp i hi j hj
  obtain ⟨hin, hjn, hne⟩ := L4.partition_pair hp hpp hi hj
  have h3 := hall p hpp i hi j hj
  obtain ⟨h1, h1'⟩ := hm i j hin hjn
  -- `hasArc t j i` read at `(i, j)` through the mirror law
  rwa [hasArc, bne_iff_ne.mpr hne.symm, ← h1, (hm j i hjn hin).1, ← h1', Bool.true_and, Bool.not_eq_true',
    Bool.or_eq_false_iff, decide_eq_false_iff_not, decide_eq_false_iff_not, Int.not_lt, Int.not_lt] at h3

/-- L4 (restrict-and-concatenate): along a partition without back arcs, any ranking can be regrouped, at no extra cost,
    so that every earlier group stands strictly before every later one, keeping all comparisons inside each group -/
theorem L4_regroup (t : Table) (n : Nat) (hm : MirrorT t n) (groups : List (List Nat))
    (hp : isPartitionOf n groups = true) (hnb : NoBack t groups) (v : List Int) (hv : v.length = n) :
    ∃ v' : List Int, v'.length = n ∧ RespectsI groups v' ∧ scoreVec t v' ≤ scoreVec t v ∧
      (∀ g ∈ groups, ∀ i ∈ g, ∀ j ∈ g,
        compare (v'.getD i 0) (v'.getD j 0) = compare (v.getD i 0) (v.getD j 0)) := by
  have hl : (L4.regroup (bIdx groups) v).length = n := by simp [hv]
  have hr := L4.respectsI_regroup n groups hp v hv
  have hc := L4.compare_regroup_of_mem n groups hp v hv
  exact ⟨_, hl, hr, PartSum.scoreVec_le_of_respects hm hp hnb hl hv hr fun g hg =>
    Int.le_of_eq (scoreIds_congr t g _ v (hc g hg)), hc⟩

/-- C06: the ParCons partition admits an optimal consensus -/
theorem C06_partition (t : Table) (n : Nat) (hm : MirrorT t n) (comps : List (List Nat))
    (h : isTopoSCC t n comps = true) (v : List Int) (hv : Optimal t n v) :
    ∃ v', Optimal t n v' ∧ RespectsI comps v' := by
  obtain ⟨v', hl, hr, hs, _⟩ :=
    L4_regroup t n hm comps (L4.isTopoSCC_partition h) (C06_graph t n hm comps h) v hv.1
  exact ⟨v', ⟨hl, fun w hw => Int.le_trans hs (hv.2 w hw)⟩, hr⟩

/-- an optimum exists: the cheapest of the finitely many dense vectors -/
theorem exists_optimal (t : Table) (n : Nat) : ∃ v, Optimal t n v := by
  obtain ⟨d, hd, e⟩ := WO.optScore_attained t n
  exact ⟨d.map fun b => Int.ofNat b,
    (WO.optimal_iff t n _).mpr ⟨by simp [((WO.allWeakOrders_spec n d).mp hd).1], e⟩⟩

/-! ### bookkeeping of the component loop -/

/-- ParCons bookkeeping: the reported weak partition is the list of components, and the necessarily-optimal mark is
    set exactly when no component was delegated to the auxiliary heuristic -/
theorem C06_flag (t : Table) (comps : List (List Nat)) (bound : Nat) (exact aux : List Nat → List (List Nat)) :
    (parCons t comps bound exact aux).partition = comps ∧
    (parCons t comps bound exact aux).optimal =
      !(comps.any fun c => !canBeAllTied c t && decide (c.length > bound)) := by
  rw [parCons, PartLoop.parCons_foldl]
  simp

/-- the consensus is the concatenation, component by component, of: the component itself as one bucket when it can be
    all tied, else the sub-solver's ranking of it -/
theorem C06_consensus (t : Table) (comps : List (List Nat)) (bound : Nat) (exact aux : List Nat → List (List Nat)) :
    (parCons t comps bound exact aux).consensus =
      comps.flatMap fun c => if canBeAllTied c t then [c] else if c.length > bound then aux c else exact c := by
  rw [parCons, PartLoop.parCons_foldl]
  simp

/-! ### partition arguments -/

/-- decomposition of the score along a partition: within-group parts plus cross pairs -/
theorem scoreVec_partition (t : Table) (n : Nat) (hm : MirrorT t n) (groups : List (List Nat))
    (hp : isPartitionOf n groups = true) (v : List Int) (hv : v.length = n) :
    scoreVec t v =
      isum (groups.map fun g => scoreIds t g v) +
      isum ((pairs groups).map fun p => isum (p.1.map fun i => isum (p.2.map fun j => sel t v i j))) :=
  PartSum.scoreVec_eq_add_crossSum hm hp hv

set_option linter.unusedVariables false in
/-- a component that can be all tied: tying all its elements is optimal for the component
    (`hm`, `hids`, `hlt` and `hv` are not used: the proof is termwise) -/
theorem C06_all_tied (t : Table) (n : Nat) (hm : MirrorT t n) (ids : List Nat) (hids : ids.Nodup)
    (hlt : ∀ i ∈ ids, i < n) (h : canBeAllTied ids t = true) (v : List Int) (hv : v.length = n)
    (hv0 : ∀ i ∈ ids, ∀ j ∈ ids, v.getD i 0 = v.getD j 0) :
    OptimalOn t ids v := by
  intro w _
  unfold scoreIds
  apply isum_map_le
  intro p hp
  obtain ⟨h1, h2⟩ := mem_pairs p hp
  simp only [canBeAllTied, List.all_eq_true, decide_eq_true_eq] at h
  have hle := Int.le_min.mp (h p hp)
  rw [sel_of_eq (hv0 p.1 h1 p.2 h2)]
  exact le_sel t w p.1 p.2 hle.1 hle.2 (Int.le_refl _)

/-- a key vector that respects a partition without back arcs and is optimal on every group is a global optimum -/
theorem optimal_of_groups (t : Table) (n : Nat) (hm : MirrorT t n) (groups : List (List Nat))
    (hp : isPartitionOf n groups = true) (hnb : NoBack t groups) (v : List Int) (hv : v.length = n)
    (hr : RespectsI groups v) (hopt : ∀ g ∈ groups, OptimalOn t g v) : Optimal t n v :=
  ⟨hv, fun w hw => PartSum.scoreVec_le_of_respects hm hp hnb hv hw hr fun g hg => hopt g hg w (hw.trans hv.symm)⟩

set_option linter.unusedVariables false in
/-- C06 core: a ranking that respects a partition without back arcs and is optimal on every group is a global optimum
    (`hL4` is L4 as a hypothesis; it is `L4_regroup` and is not needed) -/
theorem C06_concat_optimal (t : Table) (n : Nat) (hm : MirrorT t n) (groups : List (List Nat))
    (hp : isPartitionOf n groups = true) (hnb : NoBack t groups) (v : List Int) (hv : v.length = n)
    (hr : RespectsI groups v) (hopt : ∀ g ∈ groups, OptimalOn t g v)
    (hL4 : ∀ w : List Int, w.length = n → ∃ w' : List Int, w'.length = n ∧ RespectsI groups w' ∧
        scoreVec t w' ≤ scoreVec t w ∧
        (∀ g ∈ groups, ∀ i ∈ g, ∀ j ∈ g, compare (w'.getD i 0) (w'.getD j 0) = compare (w.getD i 0) (w.getD j 0))) :
    Optimal t n v :=
  optimal_of_groups t n hm groups hp hnb v hv hr hopt

/-- projection lemma (why sub-problems may be solved on the projected dataset): projecting every ranking on the kept
    elements and dropping emptied buckets, while KEEPING rankings that lose all their elements as empty rankings,
    leaves the three costs of every pair of kept elements unchanged -/
theorem C06_projection (S : Scheme) (D : Dataset) (keep : List Elem) (x y : Elem) (hx : x ∈ keep) (hy : y ∈ keep) :
    Spec.before S (projectKeepAll D keep) x y = Spec.before S D x y ∧
    Spec.after S (projectKeepAll D keep) x y = Spec.after S D x y ∧
    Spec.tied S (projectKeepAll D keep) x y = Spec.tied S D x y :=
  SubTable.costs_project S D keep x y hx hy

/-- and what goes wrong otherwise: dropping the `k` rankings that contain none of the kept elements (the public
    `sub_problem_from_elements`) changes each cost of a kept pair by exactly `k` times the both-unranked penalty -/
theorem C06_projection_dropped (S : Scheme) (D : Dataset) (keep : List Elem) (x y : Elem) (hx : x ∈ keep) (hy : y ∈ keep) :
    let k : Int := ((projectKeepAll D keep).filter fun r => r.isEmpty).length
    Spec.before S D x y = Spec.before S (subProblem D keep) x y + k * S.b5 ∧
    Spec.after S D x y = Spec.after S (subProblem D keep) x y + k * S.b5 ∧
    Spec.tied S D x y = Spec.tied S (subProblem D keep) x y + k * S.t5 := by
  intro k
  obtain ⟨h1, h2, h3⟩ := C06_projection S D keep x y hx hy
  rw [← h1, ← h2, ← h3]
  exact ⟨SubTable.isum_split_empty _ fun r => S.B (Spec.status r x y),
    SubTable.isum_split_empty _ fun r => S.B (Spec.status r y x),
    SubTable.isum_split_empty _ fun r => S.T (Spec.status r x y)⟩

/-- An instance of the shift: the second ranking loses all its elements, `k = 1`. -/
example :
    let S : Scheme := { b0 := 0, b1 := 2, b2 := 2, b3 := 0, b4 := 2, b5 := 3, t0 := 2, t1 := 2, t2 := 0, t3 := 1, t4 := 1, t5 := 5 }
    let D : Dataset := [[[0, 3], [1], [2]], [[3], [4]], [[2, 3], [3, 0], [1, 0]]]
    projectKeepAll D [0, 1] = [[[0], [1]], [], [[0], [1, 0]]] ∧ subProblem D [0, 1] = [[[0], [1]], [[0], [1, 0]]] ∧
      Spec.before S D 0 1 = 3 ∧ Spec.before S (subProblem D [0, 1]) 0 1 = 0 ∧
      Spec.tied S D 0 1 = 9 ∧ Spec.tied S (subProblem D [0, 1]) 0 1 = 4 := by
  decide +kernel

/-- if a key vector respects the components (in topological order) and is optimal on each of them, it is a global
    optimum -/
theorem C06_optimal_of_components (t : Table) (n : Nat) (hm : MirrorT t n) (comps : List (List Nat))
    (h : isTopoSCC t n comps = true) (v : List Int) (hv : v.length = n)
    (hr : RespectsI comps v) (hopt : ∀ g ∈ comps, OptimalOn t g v) : Optimal t n v :=
  optimal_of_groups t n hm comps (L4.isTopoSCC_partition h) (C06_graph t n hm comps h) v hv hr hopt

/-! ### composition -/

/-- what a sub-solver must deliver for component `c`: a ranking of exactly the ids of `c` -/
def SolvesComp (c : List Nat) (res : List (List Nat)) : Prop :=
  (∀ b ∈ res, b ≠ []) ∧ res.flatten.Perm c

namespace C06d

/-- the ranking ParCons appends for component `c` -/
def pick (t : Table) (bound : Nat) (exact aux : List Nat → List (List Nat)) (c : List Nat) : List (List Nat) :=
  if canBeAllTied c t then [c] else if c.length > bound then aux c else exact c

theorem consensus_eq (t : Table) (comps : List (List Nat)) (bound : Nat) (exact aux : List Nat → List (List Nat)) :
    (parCons t comps bound exact aux).consensus = comps.flatMap (pick t bound exact aux) :=
  C06_consensus t comps bound exact aux

theorem solves_single {c : List Nat} (hne : c ≠ []) : SolvesComp c [c] :=
  ⟨List.forall_mem_singleton.mpr hne, by simp⟩

theorem pick_solves (t : Table) (bound : Nat) (exact aux : List Nat → List (List Nat)) (c : List Nat)
    (hne : c ≠ []) (hex : SolvesComp c (exact c)) (haux : SolvesComp c (aux c)) :
    SolvesComp c (pick t bound exact aux c) := by
  unfold pick
  exact iteInduction (fun _ => solves_single hne) fun _ => iteInduction (fun _ => haux) fun _ => hex

theorem concat_respects (n : Nat) (comps : List (List Nat)) (hp : isPartitionOf n comps = true)
    (f : List Nat → List (List Nat)) (hs : ∀ c ∈ comps, SolvesComp c (f c)) :
    isPartitionOf n (comps.flatMap f) = true ∧
    RespectsI comps ((vecOfIds n (comps.flatMap f)).map fun k => Int.ofNat k) := by
  have hpc : isPartitionOf n (comps.flatMap f) = true := by
    rw [L4.isPartitionOf_eq]
    refine wellFormed_of_perm ((Compose.flatMap_flatten_perm _ comps fun c hc => (hs c hc).2).trans
      (L4.partition_perm hp)) List.nodup_range fun b hb => ?_
    obtain ⟨c, hc, hbc⟩ := List.mem_flatMap.mp hb
    exact (hs c hc).1 b hbc
  refine ⟨hpc, fun p hpp i hi j hj => ?_⟩
  obtain ⟨hin, hjn, _⟩ := L4.partition_pair hp hpp hi hj
  rw [Compose.getD_map_vecOfIds hin, Compose.getD_map_vecOfIds hjn]
  exact Int.ofNat_lt.mpr (Compose.bIdx_flatMap_lt _ comps (L4.partition_flatten_nodup hpc)
    (fun c hc => (hs c hc).2) p hpp i hi j hj)

/-- the composition theorem: rankings of the components that are each optimal for their component, concatenated in
    a topological order of the components, form a global optimum -/
theorem concat_optimal (t : Table) (n : Nat) (hm : MirrorT t n) (comps : List (List Nat))
    (h : isTopoSCC t n comps = true) (f : List Nat → List (List Nat))
    (hs : ∀ c ∈ comps, SolvesComp c (f c))
    (ho : ∀ c ∈ comps, OptimalOn t c ((vecOfIds n (f c)).map fun k => Int.ofNat k)) :
    Optimal t n ((vecOfIds n (comps.flatMap f)).map fun k => Int.ofNat k) := by
  have hp := L4.isTopoSCC_partition h
  obtain ⟨hpc, hresp⟩ := concat_respects n comps hp f hs
  apply C06_optimal_of_components t n hm comps h _ (by simp [vecOfIds]) hresp
  intro g hg
  -- inside a component the concatenation shifts the keys of the component's own ranking by a constant
  obtain ⟨off, hoff⟩ := Compose.bIdx_flatMap_offset f comps (L4.partition_flatten_nodup hpc)
    (fun c hc => (hs c hc).2) g hg
  refine optimalOn_congr t g _ _ (by simp [vecOfIds]) (fun i hi j hj => ?_) (ho g hg)
  have hin := L4.partition_lt hp hg hi
  have hjn := L4.partition_lt hp hg hj
  simp only [Compose.getD_map_vecOfIds hin, Compose.getD_map_vecOfIds hjn, hoff i hi, hoff j hj, Int.natCast_add, compare_add_right]

theorem pick_of_flag (t : Table) (comps : List (List Nat)) (bound : Nat) (exact aux : List Nat → List (List Nat))
    (hflag : (parCons t comps bound exact aux).optimal = true) (c : List Nat) (hc : c ∈ comps) :
    pick t bound exact aux c = if canBeAllTied c t then [c] else exact c := by
  rw [(C06_flag t comps bound exact aux).2, Bool.not_eq_true', List.any_eq_false] at hflag
  have := hflag c hc
  unfold pick
  cases hct : canBeAllTied c t with
  | true => rfl
  | false =>
    have hb : ¬ c.length > bound := by simpa [hct] using this
    simp [hb]

/-- truthful flag: only the exact sub-solver matters, and only on the components that cannot be all tied (where ParCons
    calls it) -/
theorem parCons_optimal (t : Table) (n : Nat) (hm : MirrorT t n) (comps : List (List Nat))
    (h : isTopoSCC t n comps = true) (bound : Nat) (exact aux : List Nat → List (List Nat))
    (hex : ∀ c ∈ comps, canBeAllTied c t = false → SolvesComp c (exact c))
    (hopt : ∀ c ∈ comps, canBeAllTied c t = false →
        OptimalOn t c ((vecOfIds n (exact c)).map fun k => Int.ofNat k))
    (hflag : (parCons t comps bound exact aux).optimal = true) :
    Optimal t n ((vecOfIds n (parCons t comps bound exact aux).consensus).map fun k => Int.ofNat k) := by
  have hp := L4.isTopoSCC_partition h
  rw [consensus_eq, List.flatMap_def, List.map_congr_left (pick_of_flag t comps bound exact aux hflag),
    ← List.flatMap_def]
  apply concat_optimal t n hm comps h
  · intro c hc
    split
    · exact solves_single (L4.partition_ne_nil hp c hc)
    · exact hex c hc (Bool.eq_false_iff.mpr ‹_›)
  · intro c hc
    split
    · apply C06_all_tied t n hm c (L4.partition_nodup hp hc) (fun _ => L4.partition_lt hp hc) ‹_› _
        (by simp [vecOfIds])
      intro i hi j hj
      rw [Compose.getD_map_vecOfIds (L4.partition_lt hp hc hi), Compose.getD_map_vecOfIds (L4.partition_lt hp hc hj)]
      simp [bIdx, bucketIdx, hi, hj]
    · exact hopt c hc (Bool.eq_false_iff.mpr ‹_›)

end C06d

open C06d in
/-- ParCons' consensus is a partition of the ids and respects the components, whatever the sub-solvers return as long as
    they return rankings of their component -/
theorem C06_respects (t : Table) (n : Nat) (comps : List (List Nat)) (hp : isPartitionOf n comps = true)
    (bound : Nat) (exact aux : List Nat → List (List Nat))
    (hex : ∀ c ∈ comps, SolvesComp c (exact c)) (haux : ∀ c ∈ comps, SolvesComp c (aux c)) :
    let out := parCons t comps bound exact aux
    isPartitionOf n out.consensus = true ∧
    RespectsI comps ((vecOfIds n out.consensus).map fun k => Int.ofNat k) ∧ out.partition = comps := by
  intro out
  have := concat_respects n comps hp (pick t bound exact aux)
    fun c hc => pick_solves t bound exact aux c (L4.partition_ne_nil hp c hc) (hex c hc) (haux c hc)
  rw [← consensus_eq] at this
  exact ⟨this.1, this.2, (C06_flag t comps bound exact aux).1⟩

/-- truthful flag: if the mark is set and the exact sub-solver returns, for every component it is given, a ranking
    that is optimal for the component, the consensus is a global optimum -/
theorem C06_flag_truthful (t : Table) (n : Nat) (hm : MirrorT t n) (comps : List (List Nat))
    (h : isTopoSCC t n comps = true) (bound : Nat) (exact aux : List Nat → List (List Nat))
    (hex : ∀ c ∈ comps, SolvesComp c (exact c)) (haux : ∀ c ∈ comps, SolvesComp c (aux c))
    (hopt : ∀ c ∈ comps, canBeAllTied c t = false →
        OptimalOn t c ((vecOfIds n (exact c)).map fun k => Int.ofNat k))
    (hflag : (parCons t comps bound exact aux).optimal = true) :
    Optimal t n ((vecOfIds n (parCons t comps bound exact aux).consensus).map fun k => Int.ofNat k) := by
  have _ := haux
  exact C06d.parCons_optimal t n hm comps h bound exact aux (fun c hc _ => hex c hc) hopt hflag

/-- The hypotheses of `C06_respects` can be met: sub-solvers returning one bucket per id, one bucket per component. -/
example :
    let comps : List (List Nat) := [[0, 1], [2]]
    isPartitionOf 3 comps = true ∧
    (∀ c ∈ comps, (∀ b ∈ c.map ([·]), b ≠ []) ∧ (c.map ([·])).flatten.Perm c) ∧
    (∀ c ∈ comps, (∀ b ∈ [c], b ≠ []) ∧ [c].flatten.Perm c) := by
  decide +kernel

end Corankco
