import Corankco.Props.C13
import Corankco.Model.Scheme
/-
  C02 — the pairwise cost table does not depend on the order of the input rankings (`C02_perm`) nor on the names of the
  elements (`C02_rename_table`, `C02_rename`).  `C02_tied_perm` and `C02_tied_rename` say the same of `Spec.tied`; their
  analogues for `before` and `after` are in Props/C13.
-/
namespace Corankco
open Model Spec

theorem C02_tied_perm (S : Scheme) (D D' : Dataset) (hp : D.Perm D') (x y : Elem) :
    Spec.tied S D x y = Spec.tied S D' x y :=
  isum_map_perm _ hp

/-- Entry `(i, j)` of the table of `D` is entry `(i', j')` of the table of any permutation `D'` of `D` whenever the two
    index pairs name the same two elements, wherever the first-appearance numberings put them. -/
theorem C02_perm (S : Scheme) (hS : S.Valid) (D D' : Dataset) (hp : D.Perm D') (i j i' j' : Nat)
    (hi : i < (univOf D).length) (hj : j < (univOf D).length)
    (hi' : i' < (univOf D').length) (hj' : j' < (univOf D').length)
    (hx : (univOf D)[i] = (univOf D')[i']) (hy : (univOf D)[j] = (univOf D')[j']) :
    (costMatrix S (getPositions D)).get i j = (costMatrix S (getPositions D')).get i' j' := by
  rw [C02_def S hS D, C02_def S hS D', specTable_get S D hi hj, specTable_get S D' hi' hj', ← hx, ← hy,
    C13_before_perm S D D' hp, C13_after_perm S D D' hp, C02_tied_perm S D D' hp]

/-- Non-vacuity: the pair (0, 1) sits at (0, 1) in one numbering and at (1, 0) in the other. -/
example :
    Scheme.Valid Model.unifying ∧ univOf [[[0, 1], [2]], [[2], [0]], [[1], [0]]] = [0, 1, 2] ∧
      univOf [[[1], [0]], [[0, 1], [2]], [[2], [0]]] = [1, 0, 2] ∧
      (costMatrix Model.unifying (getPositions [[[0, 1], [2]], [[2], [0]], [[1], [0]]])).get 0 1 =
        (costMatrix Model.unifying (getPositions [[[1], [0]], [[0, 1], [2]], [[2], [0]]])).get 1 0 := by
  decide +kernel

theorem C02_tied_rename {f : Elem → Elem} (hf : Function.Injective f) (S : Scheme) (D : Dataset) (x y : Elem) :
    Spec.tied S (D.map fun r => r.map fun b => b.map f) (f x) (f y) = Spec.tied S D x y :=
  isum_map_map (fun r => by rw [Invariance.status_rename hf]) D

/-- An injective renaming of the elements leaves the whole table as it is: it carries the first-appearance numbering
    over, so entry `(i, j)` stays entry `(i, j)`. -/
theorem C02_rename_table (S : Scheme) (hS : S.Valid) (D : Dataset) (f : Elem → Elem) (hf : Function.Injective f) :
    costMatrix S (getPositions (D.map fun r => r.map fun b => b.map f)) = costMatrix S (getPositions D) := by
  have _ := hS  -- not needed: the position matrix the table is computed from is already the same
  rw [Invariance.getPositions_rename hf]

/-- `C02_rename_table` read entry by entry. -/
theorem C02_rename (S : Scheme) (hS : S.Valid) (D : Dataset) (f : Elem → Elem) (hf : Function.Injective f)
    (i j : Nat) (hi : i < (univOf D).length) (hj : j < (univOf D).length) :
    (costMatrix S (getPositions (D.map fun r => r.map fun b => b.map f))).get i j =
      (costMatrix S (getPositions D)).get i j := by
  have _ := hi; have _ := hj  -- not needed: the two tables are equal as a whole
  rw [C02_rename_table S hS D f hf]

end Corankco
