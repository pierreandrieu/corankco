import Corankco.Lemmas.SortGroup
import Corankco.Lemmas.C19
import Corankco.Lemmas.Invariance
/-
  Borda.  The scheme families that `borda` tests are those of the specification (`bordaRelevant_eq`, by
  `C19.equivGen_eq_spec`).  The dictionary `points[elem] = [sum, count]` is a list of entries, read through its keys
  and through `val`, the value under a key: `bordaAcc` appends a key that is new and acts on every value separately,
  so both views pass through the fold and the table is that of the specification (`bordaTbl_eq`).  Comparing means
  is a total preorder on entries of positive count (`meanLe_preorder`), so the consensus orders the universe by
  increasing mean score (`bordaOut_ordersBy`).  Last, the scores under a permutation of the rankings and a renaming.
-/
namespace Corankco
open Model
namespace C12

/-! ### the four scheme families -/

theorem isEquivalentTo_eq (S S' : Scheme) : isEquivalentTo S S' = Spec.equivSpec 6 S S' :=
  C19.equivGen_eq_spec 6 S S'

theorem isUnifyingFamily_eq (S : Scheme) :
    (isEquivalentTo S unifying || isEquivalentTo S unifyingHalf) = Spec.isUnifyingFamily S := by
  simp only [isEquivalentTo_eq, Spec.isUnifyingFamily]

theorem bordaRelevant_eq (S : Scheme) :
    bordaRelevant S = (Spec.isUnifyingFamily S || Spec.isInducedFamily S) := by
  unfold bordaRelevant Spec.isUnifyingFamily Spec.isInducedFamily
  simp only [isEquivalentTo_eq, Bool.or_assoc, Bool.or_comm, Bool.or_left_comm]

/-! ### the table `points[elem] = [sum, count]`: values and keys -/

abbrev Tbl := List (Elem × Nat × Nat)

def val (tbl : Tbl) (x : Elem) : Nat × Nat := (tbl.lookup x).getD (0, 0)

theorem val_nil (x : Elem) : val [] x = (0, 0) := rfl

theorem val_cons (a : Elem × Nat × Nat) (tbl : Tbl) (x : Elem) :
    val (a :: tbl) x = if x = a.1 then a.2 else val tbl x := by
  unfold val
  rw [List.lookup_cons]
  by_cases h : x = a.1
  · rw [if_pos h, beq_iff_eq.mpr h]
    rfl
  · rw [if_neg h, beq_eq_false_iff_ne.mpr h]

theorem eq_map_val {tbl : Tbl} {ks : List Elem} {g : Elem → Nat × Nat} (hk : tbl.map (·.1) = ks) (hnd : ks.Nodup)
    (hv : ∀ x ∈ ks, val tbl x = g x) : tbl = ks.map fun x => (x, g x) := by
  subst hk
  induction tbl with
  | nil => rfl
  | cons a tbl ih =>
    rw [List.map_cons, List.nodup_cons] at hnd
    rw [List.map_cons, List.map_cons, ← hv _ (List.mem_cons_self ..), val_cons, if_pos rfl]
    congr 1
    refine ih hnd.2 fun x hx => ?_
    rw [← hv x (List.mem_cons_of_mem _ hx), val_cons, if_neg fun e : x = a.1 => hnd.1 (e ▸ hx)]

/-- what one point does to the value of `x` -/
def credit (x : Elem) (v : Nat × Nat) (p : Elem × Nat) : Nat × Nat := if x = p.1 then (v.1 + p.2, v.2 + 1) else v

theorem val_bordaAcc (tbl : Tbl) (p : Elem × Nat) (x : Elem) : val (bordaAcc tbl p) x = credit x (val tbl x) p := by
  unfold credit
  fun_induction bordaAcc tbl p with
  | case1 => simp [val_cons, val_nil]
  | case2 s c rest =>
    simp only [val_cons]
    by_cases hx : x = p.1 <;> simp only [hx, if_true, if_false]
  | case3 k s c rest h ih =>
    simp only [val_cons, ih]
    by_cases hx : x = k
    · rw [if_pos hx, if_pos hx, if_neg fun e => h (hx.symm.trans e)]
    · rw [if_neg hx, if_neg hx]

theorem keys_bordaAcc (tbl : Tbl) (p : Elem × Nat) :
    (bordaAcc tbl p).map (·.1) = if p.1 ∈ tbl.map (·.1) then tbl.map (·.1) else tbl.map (·.1) ++ [p.1] := by
  fun_induction bordaAcc tbl p with
  | case1 => rfl
  | case2 s c rest => exact (if_pos (List.mem_cons_self ..)).symm
  | case3 k s c rest h ih =>
    simp only [List.map_cons, ih, List.mem_cons, Ne.symm h, false_or]
    exact apply_ite (k :: ·) ..

theorem keys_foldl_bordaAcc (pts : List (Elem × Nat)) (tbl : Tbl) (l : List Elem) (h : tbl.map (·.1) = dedup l) :
    (pts.foldl bordaAcc tbl).map (·.1) = dedup (l ++ pts.map (·.1)) := by
  induction pts generalizing tbl l with
  | nil => simpa using h
  | cons p pts ih =>
    rw [List.foldl_cons, ih _ (l ++ [p.1]), List.map_cons, List.append_assoc, List.singleton_append]
    rw [keys_bordaAcc, h, dedup_concat]
    simp only [mem_dedup]

/-! ### the points credited to one element -/

def ptsOf (x : Elem) (pts : List (Elem × Nat)) : List Nat := (pts.filter fun p => p.1 == x).map (·.2)

theorem ptsOf_nil (x : Elem) : ptsOf x [] = [] := rfl

theorem bordaPoints_keys (useBid : Bool) (acc : Nat) (r : Ranking) :
    (bordaPoints useBid acc r).map (·.1) = r.flatten := by
  induction r generalizing acc with
  | nil => rfl
  | cons b bs ih => simp [bordaPoints, ih, List.map_map, Function.comp_def]

theorem foldl_credit_bucket (x : Elem) (acc : Nat) (b : Bucket) (hb : b.Nodup) (v : Nat × Nat) :
    (b.map fun y => (y, acc)).foldl (credit x) v = if x ∈ b then (v.1 + acc, v.2 + 1) else v := by
  induction b generalizing v with
  | nil => rfl
  | cons y b ih =>
    rw [List.nodup_cons] at hb
    rw [List.map_cons, List.foldl_cons, ih hb.2, credit]
    by_cases h : x = y
    · subst h
      simp [hb.1]
    · simp [h]

theorem foldl_credit_bordaPoints (useBid : Bool) (x : Elem) (r : Ranking) (hnd : r.flatten.Nodup) (acc : Nat)
    (v : Nat × Nat) :
    (bordaPoints useBid acc r).foldl (credit x) v =
      match Spec.bordaScoreIn useBid r x with
      | none => v
      | some s => (v.1 + (acc + s), v.2 + 1) := by
  induction r generalizing acc v with
  | nil => rfl
  | cons b bs ih =>
    rw [List.flatten_cons, List.nodup_append] at hnd
    obtain ⟨hb, hbs, hdis⟩ := hnd
    rw [bordaPoints, List.foldl_append, foldl_credit_bucket x acc b hb, ih hbs]
    unfold Spec.bordaScoreIn
    rw [bucketIdx]
    by_cases hx : x ∈ b
    · rw [if_pos hx, if_pos hx, bucketIdx_eq_none.mpr fun h => hdis x hx x h rfl]
      cases useBid <;> rfl
    · rw [if_neg hx, if_neg hx]
      cases bucketIdx bs x with
      | none => rfl
      | some i => cases useBid <;> simp [List.take_succ_cons, Nat.add_assoc, Nat.add_comm 1]

/-! ### the whole table and `bordaSumCount` -/

def bordaTbl (useBid : Bool) (rs : Dataset) : Tbl := (rs.flatMap (bordaPoints useBid 0)).foldl bordaAcc []

def scStep (useBid : Bool) (x : Elem) (acc : Nat × Nat) (r : Ranking) : Nat × Nat :=
  match Spec.bordaScoreIn useBid r x with
  | none => acc
  | some s => (acc.1 + s, acc.2 + 1)

theorem bordaSumCount_eq (useBid : Bool) (rs : Dataset) (x : Elem) :
    Spec.bordaSumCount useBid rs x = rs.foldl (scStep useBid x) (0, 0) := rfl

theorem foldl_credit_flatMap (useBid : Bool) (x : Elem) (rs : Dataset) (hnd : ∀ r ∈ rs, r.flatten.Nodup)
    (v : Nat × Nat) : (rs.flatMap (bordaPoints useBid 0)).foldl (credit x) v = rs.foldl (scStep useBid x) v := by
  induction rs generalizing v with
  | nil => rfl
  | cons r rs ih =>
    rw [List.flatMap_cons, List.foldl_append, ih fun r' h => hnd r' (List.mem_cons_of_mem _ h),
      foldl_credit_bordaPoints useBid x r (hnd r (List.mem_cons_self ..)), List.foldl_cons]
    simp only [Nat.zero_add]
    rfl

theorem keys_flatMap (useBid : Bool) (rs : Dataset) :
    (rs.flatMap (bordaPoints useBid 0)).map (·.1) = rs.flatten.flatten := by
  rw [List.map_flatMap, List.flatten_flatten, List.flatMap_def]
  simp only [bordaPoints_keys]

theorem bordaTbl_eq (useBid : Bool) (rs : Dataset) (hnd : ∀ r ∈ rs, r.flatten.Nodup) :
    bordaTbl useBid rs = (univOf rs).map fun x => (x, Spec.bordaSumCount useBid rs x) := by
  refine eq_map_val ?_ (nodup_univOf rs) fun x _ => ?_
  · rw [bordaTbl, keys_foldl_bordaAcc _ [] [] rfl, List.nil_append, keys_flatMap, univOf]
  · rw [bordaTbl, ← List.foldl_hom (val · x) fun t p => (val_bordaAcc t p x).symm]
    exact foldl_credit_flatMap useBid x rs hnd _

theorem foldl_scStep (useBid : Bool) (rs : Dataset) (x : Elem) (acc : Nat × Nat) :
    rs.foldl (scStep useBid x) acc =
      (acc.1 + (rs.filterMap (Spec.bordaScoreIn useBid · x)).sum,
        acc.2 + (rs.filterMap (Spec.bordaScoreIn useBid · x)).length) := by
  induction rs generalizing acc with
  | nil => rfl
  | cons r rs ih =>
    rw [List.foldl_cons, ih, List.filterMap_cons, scStep]
    cases Spec.bordaScoreIn useBid r x with
    | none => rfl
    | some s => simp only [List.sum_cons, List.length_cons, Nat.add_assoc, Nat.add_comm 1]

theorem bordaSumCount_pos (useBid : Bool) (rs : Dataset) {x : Elem} (hx : x ∈ univOf rs) :
    0 < (Spec.bordaSumCount useBid rs x).2 := by
  obtain ⟨r, hr, hxr⟩ := (mem_univOf rs x).mp hx
  obtain ⟨i, hi⟩ := exists_bucketIdx_eq_some hxr
  rw [bordaSumCount_eq, foldl_scStep]
  exact Nat.add_pos_right _ (List.length_filterMap_pos_iff.mpr ⟨r, hr, _, by rw [Spec.bordaScoreIn, hi]⟩)

/-! ### the consensus -/

theorem meanLe_preorder : SortGroup.TotalPreorderOn (fun a : Elem × Nat × Nat => 0 < a.2.2) meanLe where
  tot a b _ _ := by
    unfold meanLe
    simp only [decide_eq_true_eq]
    exact Nat.le_total _ _
  tr a b c _ hb _ h1 h2 := by
    unfold meanLe at *
    simp only [decide_eq_true_eq] at *
    apply Nat.le_of_mul_le_mul_right _ hb
    calc a.2.1 * c.2.2 * b.2.2 = a.2.1 * b.2.2 * c.2.2 := Nat.mul_right_comm _ _ _
      _ ≤ b.2.1 * a.2.2 * c.2.2 := Nat.mul_le_mul_right _ h1
      _ = b.2.1 * c.2.2 * a.2.2 := Nat.mul_right_comm _ _ _
      _ ≤ c.2.1 * b.2.2 * a.2.2 := Nat.mul_le_mul_right _ h2
      _ = c.2.1 * a.2.2 * b.2.2 := Nat.mul_right_comm _ _ _

/-- the rankings Borda scores. -/
def bordaRs (S : Scheme) (D : Dataset) : Dataset := if Spec.isUnifyingFamily S then unifiedRankings D else D

theorem nodup_bordaRs (S : Scheme) (D : Dataset) (hD : ∀ r ∈ D, r.flatten.Nodup) :
    ∀ r ∈ bordaRs S D, r.flatten.Nodup := by
  unfold bordaRs
  split
  · exact nodup_unifiedRankings D hD
  · exact hD

theorem mem_univOf_bordaRs (S : Scheme) (D : Dataset) (x : Elem) : x ∈ univOf (bordaRs S D) ↔ x ∈ univOf D := by
  rw [univOf, mem_dedup]
  unfold bordaRs
  split
  · exact mem_unifiedRankings D x
  · exact mem_dedup.symm

/-- the accepted branch of `borda`. -/
def bordaOut (useBid : Bool) (S : Scheme) (D : Dataset) : Ranking :=
  (groupAdj meanEq (sortBy meanLe (bordaTbl useBid (bordaRs S D)))).map fun g => g.map (·.1)

theorem borda_eq (useBid : Bool) (S : Scheme) (D : Dataset) :
    borda useBid S D =
      if isComplete D || Spec.isUnifyingFamily S || Spec.isInducedFamily S then .ok (bordaOut useBid S D)
      else .error .schemeNotHandled := by
  unfold borda bordaOut bordaRs bordaTbl
  simp only [isUnifyingFamily_eq, bordaRelevant_eq, ← Bool.not_or, ← Bool.or_assoc]
  cases isComplete D || Spec.isUnifyingFamily S || Spec.isInducedFamily S <;> rfl

theorem borda_ok {useBid : Bool} {S : Scheme} {D : Dataset} {r : Ranking} (h : borda useBid S D = .ok r) :
    r = bordaOut useBid S D := by
  rw [borda_eq] at h
  split at h
  · exact (Except.ok.inj h).symm
  · cases h

theorem borda_isOk (useBid : Bool) (S : Scheme) (D : Dataset) :
    (borda useBid S D).isOk = (isComplete D || Spec.isUnifyingFamily S || Spec.isInducedFamily S) := by
  rw [borda_eq]
  cases isComplete D || Spec.isUnifyingFamily S || Spec.isInducedFamily S <;> rfl

/-- comparison of the mean scores of the specification -/
def specLe (useBid : Bool) (rs : Dataset) (x y : Elem) : Bool :=
  decide ((Spec.bordaSumCount useBid rs x).1 * (Spec.bordaSumCount useBid rs y).2 ≤
    (Spec.bordaSumCount useBid rs y).1 * (Spec.bordaSumCount useBid rs x).2)

theorem bordaOut_ordersBy (useBid : Bool) (S : Scheme) (D : Dataset) (hD : ∀ r ∈ D, r.flatten.Nodup)
    (m : Elem → Nat × Nat) (hm : ∀ x ∈ univOf D, m x = Spec.bordaSumCount useBid (bordaRs S D) x) :
    Spec.ordersBy (univOf D) (fun x y => decide ((m x).1 * (m y).2 ≤ (m y).1 * (m x).2))
      (bordaOut useBid S D) = true := by
  rw [bordaOut, bordaTbl_eq useBid _ (nodup_bordaRs S D hD)]
  refine SortGroup.ordersBy_sortGroup meanLe_preorder ?_ (nodup_univOf _) (mem_univOf_bordaRs S D)
    (fun x hx => bordaSumCount_pos useBid _ hx) fun x hx y hy => ?_
  · intro a b _ _
    rw [Bool.eq_iff_iff]
    simp only [meanEq, meanLe, beq_iff_eq, Bool.and_eq_true, decide_eq_true_eq]
    exact Nat.le_antisymm_iff
  · rw [hm x ((mem_univOf_bordaRs S D x).mp hx), hm y ((mem_univOf_bordaRs S D y).mp hy)]
    rfl

/-! ### permutation of the rankings, renaming of the elements -/

theorem bordaSumCount_perm (useBid : Bool) {rs rs' : Dataset} (hp : rs.Perm rs') (x : Elem) :
    Spec.bordaSumCount useBid rs x = Spec.bordaSumCount useBid rs' x := by
  have := hp.filterMap (Spec.bordaScoreIn useBid · x)
  rw [bordaSumCount_eq, bordaSumCount_eq, foldl_scStep, foldl_scStep, this.sum_nat, this.length_eq]

theorem bordaScoreIn_append_singleton (useBid : Bool) (r : Ranking) (m : Bucket) (x : Elem) :
    Spec.bordaScoreIn useBid (r ++ [m]) x =
      match Spec.bordaScoreIn useBid r x with
      | some s => some s
      | none => if x ∈ m then some (if useBid then r.length else (r.map List.length).sum) else none := by
  unfold Spec.bordaScoreIn
  by_cases hx : x ∈ r.flatten
  · obtain ⟨i, hi⟩ := exists_bucketIdx_eq_some hx
    rw [bucketIdx_append_left hx, hi]
    simp only
    rw [List.take_append_of_le_length (Nat.le_of_lt (bucketIdx_lt_length hi))]
  · rw [bucketIdx_append_right hx, bucketIdx_eq_none.mpr hx]
    by_cases hm : x ∈ m <;> simp [bucketIdx, hm]

theorem bordaScoreIn_unify_congr (useBid : Bool) (u u' : List Elem) (r : Ranking) (x : Elem) (hp : u.Perm u') :
    Spec.bordaScoreIn useBid (unifyRanking u r) x = Spec.bordaScoreIn useBid (unifyRanking u' r) x := by
  -- an empty last bucket changes no score, so `unifyRanking` may be read as always adding one
  have key : ∀ u, Spec.bordaScoreIn useBid (unifyRanking u r) x =
      Spec.bordaScoreIn useBid (r ++ [u.filter fun x => !(r.flatten.contains x)]) x := by
    intro u
    unfold unifyRanking
    simp only
    split
    · rename_i h
      rw [List.isEmpty_iff.mp h, bordaScoreIn_append_singleton]
      cases Spec.bordaScoreIn useBid r x <;> rfl
    · rfl
  rw [key, key, bordaScoreIn_append_singleton, bordaScoreIn_append_singleton]
  simp only [(hp.filter _).mem_iff]

theorem univOf_perm (D D' : Dataset) (hp : D.Perm D') : (univOf D).Perm (univOf D') := by
  rw [List.perm_ext_iff_of_nodup (nodup_univOf D) (nodup_univOf D')]
  intro x
  simp only [mem_univOf, hp.mem_iff]

theorem bordaSumCount_bordaRs_perm (useBid : Bool) (S : Scheme) (D D' : Dataset) (hp : D.Perm D') (x : Elem) :
    Spec.bordaSumCount useBid (bordaRs S D) x = Spec.bordaSumCount useBid (bordaRs S D') x := by
  unfold bordaRs
  split
  · unfold unifiedRankings
    rw [← bordaSumCount_perm useBid (hp.map (unifyRanking (univOf D'))) x]
    simp only [bordaSumCount_eq, List.foldl_map, scStep,
      bordaScoreIn_unify_congr useBid _ _ _ x (univOf_perm D D' hp)]
  · exact bordaSumCount_perm useBid hp x

theorem isComplete_perm (D D' : Dataset) (hp : D.Perm D') : isComplete D = isComplete D' := by
  unfold isComplete
  rw [(univOf_perm D D' hp).all_eq]
  simp only [hp.all_eq]

theorem bordaRs_rename {f : Elem → Elem} (hf : Function.Injective f) (S : Scheme) (D : Dataset) :
    bordaRs S (D.map fun r => r.map fun b => b.map f) =
      (bordaRs S D).map fun r => r.map fun b => b.map f := by
  unfold bordaRs
  split
  · exact Invariance.unifiedRankings_rename hf D
  · rfl

end C12
end Corankco
