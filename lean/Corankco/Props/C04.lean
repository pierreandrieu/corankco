import Corankco.Props.C01
/-
  C04 — the reported score is the true score and is never negative (`C04_nonneg`): here for the score computed on demand
  (`C04_lazy`); BioConsert's part stands with its loop (`C04_dstInit` in Props/C08, `C04_bioconsert` in Props/C09).
-/
namespace Corankco
open Model

namespace C04

theorem isum_nonneg (l : List Int) (h : ∀ x ∈ l, 0 ≤ x) : 0 ≤ isum l := by
  have := isum_map_le (f := fun _ => 0) (g := id) h
  rwa [isum_map_zero, List.map_id] at this

theorem B_nonneg (S : Scheme) (hS : S.Valid) (k : Nat) : 0 ≤ S.B k := by
  obtain ⟨h0, h1, h2, h3, h4, h5, _⟩ := hS
  unfold Scheme.B; split <;> first | assumption | exact Int.le_refl 0

theorem T_nonneg (S : Scheme) (hS : S.Valid) (k : Nat) : 0 ≤ S.T k := by
  obtain ⟨_, _, _, _, _, _, h0, h1, h2, h3, h4, h5, _⟩ := hS
  unfold Scheme.T; split <;> first | assumption | exact Int.le_refl 0

theorem pen_nonneg (S : Scheme) (hS : S.Valid) (r c : Ranking) (x y : Elem) : 0 ≤ Spec.pen S r c x y := by
  unfold Spec.pen
  split
  · split
    · exact B_nonneg S hS _
    · split
      · exact B_nonneg S hS _
      · exact T_nonneg S hS _
  · exact Int.le_refl 0

theorem kemenyOne_nonneg (S : Scheme) (hS : S.Valid) (c r : Ranking) : 0 ≤ Spec.kemenyOne S c r :=
  isum_map_zero _ ▸ isum_map_le fun p _ => pen_nonneg S hS r c p.1 p.2

end C04

/-- a Kemeny score is never negative under a valid scheme -/
theorem C04_nonneg (S : Scheme) (hS : S.Valid) (D : Dataset) (c : Ranking) : 0 ≤ Spec.kemeny S D c :=
  isum_map_zero _ ▸ isum_map_le fun r _ => C04.kemenyOne_nonneg S hS c r

/-- the score computed on demand (`Consensus.kemeny_score`, on the first consensus ranking) is the true score -/
theorem C04_lazy (S : Scheme) (hS : S.Valid) (D : Dataset) (c : Ranking)
    (hc : c.flatten.Nodup) (hD : ∀ r ∈ D, r.flatten.Nodup) (hcov : Spec.covers c D = true) :
    Model.getScore S c D = .ok (Spec.kemeny S D c) ∧ 0 ≤ Spec.kemeny S D c :=
  ⟨C01_score S hS D c hc hD hcov, C04_nonneg S hS D c⟩

/-- Non-vacuity: the instance of C01 (ties, a missing element, candidate over a superset) -/
example : Model.getScore C01.exS C01.exC C01.exD = .ok (Spec.kemeny C01.exS C01.exD C01.exC) ∧
    0 ≤ Spec.kemeny C01.exS C01.exD C01.exC :=
  C04_lazy _ (by decide +kernel) _ _ (by decide +kernel) (by decide +kernel) (by decide +kernel)

end Corankco
