import Corankco.Lemmas.C20
import Corankco.Spec.C20
import Corankco.Lemmas.List
/-
  C20 — the random generators (`ranking.py:207-383`): every Markov move, every step and every walk keeps the bucket
  numbering dense; a dense vector converts into non-empty pairwise-disjoint buckets over exactly the ranked elements;
  hence `generate` delivers valid rankings, with all `n` elements and exactly `m` rankings in complete mode.  Then the
  uniform permutation datasets (`Ranking.uniform_permutations`): whatever permutation of `1..n` the random source
  (`shuffle`) produces, the delivered rankings satisfy `C20.holdsUniform`.
-/
namespace Corankco
open Model

/-- the definition of `Dense` (Lemmas/C20.lean) -/
example (v : List Int) :
    Dense v ↔ ((∀ x ∈ v, -1 ≤ x) ∧ ∀ x ∈ v, ∀ b : Int, 0 ≤ b → b < x → b ∈ v) := Iff.rfl

/-- `Dense` coincides with the executable `Spec.denseB` the differential check evaluates. -/
theorem C20_dense_iff_denseB (v : List Int) : Dense v ↔ Spec.denseB v = true := dense_iff_denseB v

theorem C20_init_dense (n : Nat) : Dense ((List.range n).map fun (i : Nat) => Int.ofNat i) :=
  ⟨fun x hx => Int.le_trans (by decide) ((init_denseFrom n).1 x hx), (init_denseFrom n).2⟩

/-! each move preserves density, for every ranked (`putFirst`: absent) element -/

theorem C20_addLeft_dense (v : List Int) (e : Nat) (he : e < v.length) (hr : 0 ≤ v.getD e 0)
    (h : Dense v) : Dense (addLeft v e) :=
  addLeft_denseFrom (lo := -1) (by decide) he hr h

theorem C20_addRight_dense (v : List Int) (e : Nat) (he : e < v.length) (hr : 0 ≤ v.getD e 0)
    (h : Dense v) : Dense (addRight v e) :=
  addRight_denseFrom (lo := -1) (by decide) he hr h

theorem C20_changeLeft_dense (v : List Int) (e : Nat) (he : e < v.length) (hr : 0 ≤ v.getD e 0)
    (h : Dense v) : Dense (changeLeft v e) :=
  changeLeft_denseFrom (lo := -1) (by decide) he hr h

theorem C20_changeRight_dense (v : List Int) (e : Nat) (he : e < v.length) (hr : 0 ≤ v.getD e 0)
    (h : Dense v) : Dense (changeRight v e) :=
  changeRight_denseFrom (lo := -1) (by decide) he hr h

theorem C20_removeElem_dense (v : List Int) (e : Nat) (he : e < v.length) (hr : 0 ≤ v.getD e 0)
    (h : Dense v) : Dense (removeElem v e) := removeElem_dense he hr h

theorem C20_putFirst_dense (v : List Int) (e : Nat) (he : e < v.length) (hm : v.getD e 0 = -1)
    (h : Dense v) : Dense (putFirst v e) := putFirst_dense he hm h

/-- every move keeps the length -/
theorem C20_moves_length (v : List Int) (e : Nat) :
    (addLeft v e).length = v.length ∧ (addRight v e).length = v.length ∧
    (changeLeft v e).length = v.length ∧ (changeRight v e).length = v.length ∧
    (removeElem v e).length = v.length ∧ (putFirst v e).length = v.length := moves_length v e

/-- one step, every drawn element and every drawn number -/
theorem C20_step_dense (complete : Bool) (v : List Int) (e alea : Nat) (he : e < v.length) (h : Dense v)
    (hc : complete = true → ∀ x ∈ v, 0 ≤ x) :
    Dense (if complete then stepComplete v e alea else stepIncomplete v e alea) := by
  cases complete with
  | true => exact stepComplete_denseFrom (lo := -1) (by decide) alea he (hc rfl _ (getD_mem 0 he)) h
  | false => exact stepIncomplete_dense alea he h

/-- every walk (every sequence of draws) -/
theorem C20_walk_dense (complete : Bool) (v : List Int) (draws : List (Nat × Nat))
    (hd : ∀ d ∈ draws, d.1 < v.length) (h : Dense v) (hc : complete = true → ∀ x ∈ v, 0 ≤ x) :
    Dense (walk complete v draws) ∧ (walk complete v draws).length = v.length ∧
    (complete = true → ∀ x ∈ walk complete v draws, 0 ≤ x) := by
  induction draws generalizing v with
  | nil => exact ⟨h, rfl, hc⟩
  | cons d ds ih =>
    have hd1 : d.1 < v.length := hd d List.mem_cons_self
    have hlen : (if complete then stepComplete v d.1 d.2 else stepIncomplete v d.1 d.2).length = v.length := by
      cases complete <;> simp
    have := ih (if complete then stepComplete v d.1 d.2 else stepIncomplete v d.1 d.2)
      (fun d' hd' => hlen ▸ hd d' (List.mem_cons_of_mem _ hd'))
      (C20_step_dense complete v d.1 d.2 hd1 h hc)
      -- in complete mode the entries stay ≥ 0: the step lemma with lower bound 0
      (fun hct => by
        subst hct
        exact (stepComplete_denseFrom (lo := 0) (Int.le_refl 0) d.2 hd1 (hc rfl _ (getD_mem 0 hd1))
          ⟨hc rfl, h.2⟩).1)
    rwa [hlen] at this

/-- conversion of a dense vector: non-empty pairwise-disjoint buckets over exactly the ranked elements -/
theorem C20_convert (v : List Int) (h : Dense v) (r : Ranking) (hr : toRanking v = some r) :
    Spec.validRanking v.length r = true ∧ ∀ e, e ∈ r.flatten ↔ (e < v.length ∧ 0 ≤ v.getD e 0) := by
  rw [toRanking_eq] at hr
  split at hr
  · cases hr
    refine ⟨validRanking_iff.mpr ⟨?_, fun e he => (mem_flatten_buckets.mp he).1, ?_⟩, fun e => mem_flatten_buckets⟩
    · intro b hb
      obtain ⟨i, hi, rfl⟩ := List.mem_map.mp hb
      -- `i` is at most some used id, so it is a used id: the bucket has a member
      obtain ⟨x, hx, hix⟩ := (le_vmax_iff (v := v) (Int.natCast_nonneg i)).mp
        (Int.lt_add_one_iff.mp (Int.lt_toNat.mp (List.mem_range.mp hi)))
      obtain ⟨e, he, hev⟩ := (mem_iff_getD 0).mp
        ((Int.lt_or_eq_of_le hix).elim (h.2 x hx _ (Int.natCast_nonneg i)) (· ▸ hx))
      exact List.ne_nil_of_mem (mem_bucketOf.mpr ⟨he, hev⟩)
    · exact nodup_flatten_map_range (bucketOf v) (fun i => List.nodup_range.sublist List.filter_sublist)
        (fun i j e hi hj => Int.ofNat_inj.mp ((mem_bucketOf.mp hi).2.symm.trans (mem_bucketOf.mp hj).2)) _
  · cases hr

theorem C20_convert_none (v : List Int) (h : Dense v) : toRanking v = none ↔ ∀ x ∈ v, x = -1 := by
  -- no bucket at all says that no entry is `≥ 0`
  have : (vmax v + 1).toNat > 0 ↔ ∃ x ∈ v, 0 ≤ x :=
    Int.lt_toNat.trans (Int.lt_add_one_iff.trans (le_vmax_iff (Int.le_refl 0)))
  simp only [toRanking_eq, ite_eq_right_iff, this, reduceCtorEq, imp_false, not_exists, not_and]
  refine forall₂_congr fun x hx => ?_
  have := h.1 x hx
  omega

/-- the generator: whatever is drawn, the delivered rankings are valid; in complete mode there are exactly
    as many rankings as requested and each contains all n elements -/
theorem C20_generate (n : Nat) (hn : 0 < n) (complete : Bool) (draws : List (List (Nat × Nat)))
    (hd : ∀ ds ∈ draws, ∀ d ∈ ds, d.1 < n) :
    Spec.C20.holds n draws.length complete (generate n complete draws) = true := by
  let v0 : List Int := (List.range n).map fun (i : Nat) => Int.ofNat i
  have hv0 : v0.length = n := by simp [v0]
  have hw := fun ds (hds : ds ∈ draws) =>
    C20_walk_dense complete v0 ds (hv0 ▸ hd ds hds) (C20_init_dense n) fun _ => (init_denseFrom n).1
  have hvalid : ∀ ds ∈ draws, ∀ r, toRanking (walk complete v0 ds) = some r →
      Spec.validRanking n r = true ∧ (complete = true → r.flatten.length = n) := by
    intro ds hds r hr
    obtain ⟨h1, h2, h3⟩ := hw ds hds
    obtain ⟨c1, c2⟩ := C20_convert _ h1 r hr
    rw [h2, hv0] at c1 c2
    exact ⟨c1, fun hc => length_of_nodup_mem_iff (validRanking_iff.mp c1).2.2 fun e =>
      (c2 e).trans ⟨(·.1), fun he => ⟨he, h3 hc _ (getD_mem 0 ((h2.trans hv0).symm ▸ he))⟩⟩⟩
  unfold Spec.C20.holds generate
  simp only [Bool.and_eq_true, Bool.or_eq_true, Bool.not_eq_true', List.all_eq_true, beq_iff_eq,
    List.mem_filterMap, forall_exists_index, and_imp]
  refine ⟨fun r ds hds hr => (hvalid ds hds r hr).1, ?_⟩
  cases complete with
  | false => exact .inl rfl
  | true =>
    refine .inr ⟨List.filterMap_length_eq_length.mpr fun ds hds => ?_, fun r ds hds hr => (hvalid ds hds r hr).2 rfl⟩
    -- entry 0 of the walk is `≥ 0`, so the ranking is not dropped
    obtain ⟨h1, h2, h3⟩ := hw ds hds
    refine Option.isSome_iff_ne_none.mpr fun hnone => ?_
    have h0 : (walk true v0 ds).getD 0 0 ∈ _ := getD_mem 0 ((h2.trans hv0).symm ▸ hn)
    have := (C20_convert_none _ h1).mp hnone _ h0
    have := h3 rfl _ h0
    omega

/-! ### non-vacuity

  `[0, 0, 1, -1, 1, 2]`: element 3 absent, buckets {0,1}, {2,4}, {5}. -/

example : Dense [0, 0, 1, -1, 1, 2] := by decide +kernel
example : ¬ Dense [0, 2] := by decide +kernel
example : ¬ Dense [0, -2] := by decide +kernel
example : ¬ Dense [1, 1, 2] := by decide +kernel

/-- hypotheses of the five "ranked element" move theorems: element 0, in a two-element bucket; element 5, alone -/
example : ∃ (v : List Int) (e : Nat), e < v.length ∧ 0 ≤ v.getD e 0 ∧ Dense v ∧ cnt v (v.getD e 0) > 1 :=
  ⟨[0, 0, 1, -1, 1, 2], 0, by decide +kernel⟩
example : ∃ (v : List Int) (e : Nat), e < v.length ∧ 0 ≤ v.getD e 0 ∧ Dense v ∧ cnt v (v.getD e 0) = 1 :=
  ⟨[0, 0, 1, -1, 1, 2], 5, by decide +kernel⟩
/-- hypotheses of `C20_putFirst_dense` -/
example : ∃ (v : List Int) (e : Nat), e < v.length ∧ v.getD e 0 = -1 ∧ Dense v :=
  ⟨[0, 0, 1, -1, 1, 2], 3, by decide +kernel⟩

/-- and the moves really move on it -/
example : addLeft [0, 0, 1, -1, 1, 2] 0 = [0, 1, 2, -1, 2, 3] := by decide +kernel
example : addRight [0, 0, 0, -1, 1, 2] 0 = [1, 0, 0, -1, 2, 3] := by decide +kernel
example : changeLeft [0, 0, 1, -1, 1, 2] 5 = [0, 0, 1, -1, 1, 1] := by decide +kernel
example : changeLeft [0, 0, 1, -1, 1, 2] 2 = [0, 0, 0, -1, 1, 2] := by decide +kernel
example : changeRight [0, 0, 1, -1, 1, 2] 0 = [1, 0, 1, -1, 1, 2] := by decide +kernel
example : changeRight [0, 1, 1, -1, 2, 2] 0 = [0, 0, 0, -1, 1, 1] := by decide +kernel
example : removeElem [0, 0, 1, -1, 1, 2] 5 = [0, 0, 1, -1, 1, -1] := by decide +kernel
example : removeElem [0, 1, 1, -1, 2, 2] 0 = [-1, 0, 0, -1, 1, 1] := by decide +kernel
example : putFirst [0, 0, 1, -1, 1, 2] 3 = [1, 1, 2, 0, 2, 3] := by decide +kernel

/-- hypotheses of `C20_step_dense` / `C20_walk_dense`, both modes -/
example : ∃ (v : List Int) (draws : List (Nat × Nat)), (∀ d ∈ draws, d.1 < v.length) ∧ Dense v ∧
    ((false : Bool) = true → ∀ x ∈ v, 0 ≤ x) ∧ walk false v draws ≠ v :=
  ⟨[0, 0, 1, -1, 1, 2], [(0, 1), (3, 5), (5, 5)], by decide +kernel⟩
example : ∃ (v : List Int) (draws : List (Nat × Nat)), (∀ d ∈ draws, d.1 < v.length) ∧ Dense v ∧
    ((true : Bool) = true → ∀ x ∈ v, 0 ≤ x) ∧ walk true v draws ≠ v :=
  ⟨[0, 0, 1, 1, 2], [(0, 1), (3, 4), (4, 3)], by decide +kernel⟩

/-- hypotheses of `C20_convert` and both sides of `C20_convert_none` -/
example : toRanking [0, 0, 1, -1, 1, 2] = some [[0, 1], [2, 4], [5]] := by decide +kernel
example : Dense [-1, -1] ∧ toRanking [-1, -1] = none := by decide +kernel
example : Dense [] ∧ toRanking [] = none := by decide +kernel

/-- `C20_generate`: a request on which something is generated, both modes -/
example : generate 3 true [[(0, 3)], [(1, 3), (2, 3)]] = [[[0], [1], [2]], [[0, 1, 2]]] := by decide +kernel
example : generate 2 false [[(0, 5), (1, 5)], [(1, 5)]] = [[[0]]] := by decide +kernel

end Corankco

/-! ### uniform permutation datasets -/
namespace Corankco
open Model Spec

/-- model of `Ranking.uniform_permutations`: each ranking is a permutation (supplied by the random source) of 1..n,
    one element per bucket -/
def uniformRankings (perms : List (List Nat)) : List Ranking := perms.map fun p => p.map fun x => [x]

theorem uniformRankings_flatten (p : List Nat) : (p.map fun x => [x]).flatten = p :=
  flatten_map_singleton p

theorem C20_uniform (n : Nat) (perms : List (List Nat)) (hp : ∀ p ∈ perms, p.Perm ((List.range n).map (· + 1))) :
    C20.holdsUniform n perms.length (uniformRankings perms) = true := by
  unfold C20.holdsUniform uniformRankings
  simp only [List.length_map, beq_iff_eq, true_and, List.all_eq_true, Bool.and_eq_true, decide_eq_true_eq]
  intro r hr
  obtain ⟨p, hpm, rfl⟩ := List.mem_map.mp hr
  have h := hp p hpm
  rw [uniformRankings_flatten]
  refine ⟨⟨⟨?_, ?_⟩, ?_⟩, ?_⟩
  · intro b hb
    obtain ⟨x, _, rfl⟩ := List.mem_map.mp hb
    rfl
  · rw [h.length_eq, List.length_map, List.length_range]
  · rw [h.nodup_iff]
    exact nodup_map_of_inj_on List.nodup_range fun _ _ _ _ => Nat.succ.inj
  · intro x hx
    obtain ⟨i, hi, rfl⟩ := List.mem_map.mp (h.mem_iff.mp hx)
    have := List.mem_range.mp hi
    exact ⟨Nat.succ_le_succ (Nat.zero_le i), this⟩

/-- Non-vacuity: three shuffles of `1..4`. -/
example : C20.holdsUniform 4 3 (uniformRankings [[1, 2, 3, 4], [4, 2, 1, 3], [3, 1, 4, 2]]) = true := by decide +kernel

/-- and a list that is not a permutation of `1..n` is rejected. -/
example : C20.holdsUniform 3 1 (uniformRankings [[0, 1, 2]]) = false ∧
    C20.holdsUniform 3 1 (uniformRankings [[1, 2, 2]]) = false := by decide +kernel

end Corankco
