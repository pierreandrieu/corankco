import Corankco.Lemmas.Sel
import Corankco.Lemmas.SortGroup
/-
  Partitions of the ids `0 .. n-1` (the well-formed rankings over `List.range n`, `isPartitionOf_eq`), and the
  regrouping of a key vector along one (L4, restrict-and-concatenate): `regroup g v` has the keys `(g i, v[i])` in
  lexicographic order, coded by `lex`.  With the bucket index `bIdx groups` of a partition for `g` it ranks every
  earlier group before every later one (`respectsI_regroup`) and compares as `v` does inside each group
  (`compare_regroup_of_mem`).  Also `lower`, a lower bound of every score.
-/
namespace Corankco
open Model Spec
namespace L4

theorem sameSet_iff (a b : List Nat) : sameSet a b = true ↔ ∀ x, x ∈ a ↔ x ∈ b := by
  simp only [sameSet, Bool.and_eq_true, List.all_eq_true, List.contains_iff_mem]
  constructor
  · rintro ⟨h1, h2⟩ x; exact ⟨h1 x, h2 x⟩
  · intro h; exact ⟨fun x hx => (h x).mp hx, fun x hx => (h x).mpr hx⟩

theorem isPartitionOf_iff (n : Nat) (groups : List (List Nat)) :
    isPartitionOf n groups = true ↔
      (∀ g ∈ groups, g ≠ []) ∧ groups.flatten.Nodup ∧ ∀ i, i ∈ groups.flatten ↔ i < n := by
  simp only [isPartitionOf, Bool.and_eq_true, List.all_eq_true, decide_eq_true_eq, sameSet_iff,
    List.mem_range, Bool.not_eq_true', List.isEmpty_eq_false_iff, and_assoc]

theorem isPartitionOf_eq (n : Nat) (groups : List (List Nat)) :
    isPartitionOf n groups = wellFormedRanking (List.range n) groups := by
  simp only [isPartitionOf, wellFormedRanking, sameSet, Bool.and_assoc]

theorem isTopoSCC_partition {t : Table} {n : Nat} {comps : List (List Nat)} (h : isTopoSCC t n comps = true) :
    isPartitionOf n comps = true := by
  simp only [isTopoSCC, Bool.and_eq_true] at h
  exact h.1.1

theorem partition_ne_nil {n : Nat} {groups : List (List Nat)} (hp : isPartitionOf n groups = true) :
    ∀ g ∈ groups, g ≠ [] :=
  ((isPartitionOf_iff n groups).mp hp).1

theorem partition_flatten_nodup {n : Nat} {groups : List (List Nat)} (hp : isPartitionOf n groups = true) :
    groups.flatten.Nodup :=
  ((isPartitionOf_iff n groups).mp hp).2.1

theorem mem_partition_flatten {n : Nat} {groups : List (List Nat)} (hp : isPartitionOf n groups = true) {i : Nat} :
    i ∈ groups.flatten ↔ i < n :=
  ((isPartitionOf_iff n groups).mp hp).2.2 i

theorem partition_lt {n : Nat} {groups : List (List Nat)} (hp : isPartitionOf n groups = true) {g : List Nat}
    (hg : g ∈ groups) {i : Nat} (hi : i ∈ g) : i < n :=
  (mem_partition_flatten hp).mp (List.mem_flatten_of_mem hg hi)

theorem partition_nodup {n : Nat} {groups : List (List Nat)} (hp : isPartitionOf n groups = true) {g : List Nat}
    (hg : g ∈ groups) : g.Nodup :=
  (List.pairwise_flatten.mp (partition_flatten_nodup hp)).1 g hg

theorem partition_perm {n : Nat} {groups : List (List Nat)} (hp : isPartitionOf n groups = true) :
    groups.flatten.Perm (List.range n) :=
  perm_of_wellFormed List.nodup_range (isPartitionOf_eq n groups ▸ hp)

theorem partition_length_le {n : Nat} {groups : List (List Nat)} (hp : isPartitionOf n groups = true) {g : List Nat}
    (hg : g ∈ groups) : g.length ≤ n := by
  have h := (partition_perm hp).length_eq
  rw [List.length_range] at h
  exact h ▸ (List.sublist_flatten_of_mem hg).length_le

theorem wellFormed_map_getD {univ : List Elem} (hu : univ.Nodup) {c : List (List Nat)}
    (hp : isPartitionOf univ.length c = true) :
    wellFormedRanking univ (c.map fun b => b.map fun i => univ.getD i 0) = true := by
  apply wellFormed_of_perm _ hu
  · intro b hb
    obtain ⟨b0, hb0, rfl⟩ := List.mem_map.mp hb
    simpa using partition_ne_nil hp b0 hb0
  · rw [← List.map_flatten]
    have := (partition_perm hp).map fun i => univ.getD i 0
    rwa [map_getD_range] at this

theorem partition_pair {n : Nat} {groups : List (List Nat)} (hp : isPartitionOf n groups = true)
    {p : List Nat × List Nat} (hpp : p ∈ pairs groups) {i j : Nat} (hi : i ∈ p.1) (hj : j ∈ p.2) :
    i < n ∧ j < n ∧ i ≠ j := by
  obtain ⟨h1, h2⟩ := mem_pairs p hpp
  exact ⟨partition_lt hp h1 hi, partition_lt hp h2 hj, pairwise_iff_pairs.mp
    (List.pairwise_flatten.mp (partition_flatten_nodup hp)).2 p hpp i hi j hj⟩

def bound (v : List Int) : Nat := (v.map Int.natAbs).foldl max 0

theorem natAbs_le_bound (v : List Int) (i : Nat) : (v.getD i 0).natAbs ≤ bound v := by
  by_cases h : i < v.length
  · rw [getD_of_lt h]
    exact (foldl_max_spec (v.map Int.natAbs) 0).2 _ (List.mem_cons_of_mem _ (List.mem_map.mpr ⟨v[i], List.getElem_mem h, rfl⟩))
  · simp [List.getD, h]

def regroup (g : Nat → Nat) (v : List Int) : List Int :=
  lex (2 * (bound v : Int) + 1) (fun i => (g i : Int)) (fun i => v.getD i 0) v.length

@[simp] theorem regroup_length (g : Nat → Nat) (v : List Int) : (regroup g v).length = v.length := lex_length ..

theorem compare_regroup (g : Nat → Nat) (v : List Int) (i j : Nat) (hi : i < v.length) (hj : j < v.length) :
    compare ((regroup g v).getD i 0) ((regroup g v).getD j 0) =
      (compare (g i) (g j)).then (compare (v.getD i 0) (v.getD j 0)) := by
  rw [← compare_natCast]
  refine compare_lex (fun a b _ _ => ?_) i j hi hj
  have := natAbs_le_bound v a
  have := natAbs_le_bound v b
  have := Int.natAbs_sub_le (v.getD a 0) (v.getD b 0)
  have := Int.le_natAbs (a := v.getD a 0 - v.getD b 0)
  omega

theorem respectsI_regroup (n : Nat) (groups : List (List Nat)) (hp : isPartitionOf n groups = true)
    (v : List Int) (hv : v.length = n) : RespectsI groups (regroup (bIdx groups) v) := by
  intro p hpp i hi j hj
  obtain ⟨h1, h2, _⟩ := partition_pair hp hpp hi hj
  rw [← Int.compare_eq_lt, compare_regroup _ v i j (hv ▸ h1) (hv ▸ h2),
    Nat.compare_eq_lt.mpr
      (pairwise_iff_pairs.mp (bIdx_lt_bIdx (partition_flatten_nodup hp)) p hpp i hi j hj)]
  rfl

theorem compare_regroup_of_mem (n : Nat) (groups : List (List Nat)) (hp : isPartitionOf n groups = true)
    (v : List Int) (hv : v.length = n) (g : List Nat) (hg : g ∈ groups) (i : Nat) (hi : i ∈ g) (j : Nat) (hj : j ∈ g) :
    compare ((regroup (bIdx groups) v).getD i 0) ((regroup (bIdx groups) v).getD j 0) =
      compare (v.getD i 0) (v.getD j 0) := by
  rw [compare_regroup _ v i j (hv ▸ partition_lt hp hg hi) (hv ▸ partition_lt hp hg hj),
    Nat.compare_eq_eq.mpr (bIdx_eq_of_mem (partition_flatten_nodup hp) hg hi hj)]
  rfl

def min3 (t : Table) (i j : Nat) : Int := min (t.bef i j) (min (t.aft i j) (t.tie i j))

theorem min3_le_sel (t : Table) (v : List Int) (i j : Nat) : min3 t i j ≤ sel t v i j :=
  le_sel t v i j (Int.min_le_left ..) (Int.le_trans (Int.min_le_right ..) (Int.min_le_left ..))
    (Int.le_trans (Int.min_le_right ..) (Int.min_le_right ..))

def lower (t : Table) (n : Nat) : Int := isum ((pairs (List.range n)).map fun p => min3 t p.1 p.2)

theorem lower_le (t : Table) (v : List Int) : lower t v.length ≤ scoreVec t v := by
  unfold lower scoreVec
  apply isum_map_le
  intro p _
  exact min3_le_sel t v p.1 p.2

end L4
end Corankco
