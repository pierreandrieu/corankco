import Corankco.Model.Kemeny
import Corankco.Lemmas.C01Cross
/-
  The prefix-sum counters on the list of fibre sizes of a map `f : α → Nat` (the consensus bucket id) over a list `M`
  (the unranked elements): `prefixExcl` (`t_1`) counts the elements below each fibre, `suffixAfter` (`t_2`) those
  above, `missingLoop` sums products of these over the fibres.
-/
namespace Corankco
namespace C01
open Model

section
variable {α : Type} (M : List α) (f : α → Nat)

theorem countP_lt_succ (k : Nat) :
    M.countP (fun x => decide (f x < k + 1)) =
      M.countP (fun x => decide (f x < k)) + M.countP (fun x => f x == k) :=
  countP_split fun x _ => by
    simp only [decide_eq_true_eq, beq_iff_eq]
    exact ⟨Nat.lt_succ_iff_lt_or_eq, fun h => Nat.ne_of_lt h.1 h.2⟩

theorem countP_le_sub (i : Nat) :
    M.countP (fun x => decide (i ≤ f x)) - M.countP (fun x => f x == i) =
      M.countP (fun x => decide (i + 1 ≤ f x)) := by
  rw [countP_split (q := fun x => f x == i) (s := fun x => decide (i + 1 ≤ f x)) fun x _ => by
    simp only [decide_eq_true_eq, beq_iff_eq]; omega, Nat.add_sub_cancel_left]

theorem prefixExcl_fibres (s m : Nat) :
    prefixExcl (M.countP fun x => decide (f x < s)) ((List.range' s m).map fun i => M.countP fun x => f x == i) =
      (List.range' s m).map fun i => M.countP fun x => decide (f x < i) := by
  induction m generalizing s with
  | zero => rfl
  | succ m ih =>
    simp only [List.range'_succ, List.map_cons, prefixExcl]
    rw [← countP_lt_succ, ih (s + 1)]

theorem suffixAfter_fibres (s m : Nat) :
    suffixAfter (M.countP fun x => decide (s ≤ f x)) ((List.range' s m).map fun i => M.countP fun x => f x == i) =
      (List.range' s m).map fun i => M.countP fun x => decide (i < f x) := by
  induction m generalizing s with
  | zero => rfl
  | succ m ih =>
    simp only [List.range'_succ, List.map_cons, suffixAfter]
    rw [countP_le_sub, ih (s + 1)]
    rfl

theorem prefixExcl_range (n : Nat) :
    prefixExcl 0 ((List.range n).map fun i => M.countP fun x => f x == i) =
      (List.range n).map fun i => M.countP fun x => decide (f x < i) := by
  have h0 : M.countP (fun x => decide (f x < 0)) = 0 := List.countP_eq_zero.mpr fun x _ => by simp
  rw [List.range_eq_range', ← prefixExcl_fibres, h0]

theorem suffixAfter_range (n : Nat) :
    suffixAfter M.length ((List.range n).map fun i => M.countP fun x => f x == i) =
      (List.range n).map fun i => M.countP fun x => decide (i < f x) := by
  have h0 : M.countP (fun x => decide (0 ≤ f x)) = M.length := List.countP_eq_length.mpr fun x _ => by simp
  rw [List.range_eq_range', ← suffixAfter_fibres, h0]

theorem sum_fibres (h : Nat → Nat) (n : Nat) (hf : ∀ x ∈ M, f x < n) :
    (M.map (fun x => h (f x))).sum =
      ((List.range n).map (fun i => M.countP (fun x => f x == i) * h i)).sum := by
  apply Int.natCast_inj.mp
  simp only [natCast_sum, Int.natCast_mul]
  exact isum_fibres (fun i => (h i : Int)) (fun x => some (f x)) n M fun a ha k e => Option.some.inj e ▸ hf a ha

theorem countP_pairs_fibre (n : Nat) (hf : ∀ x ∈ M, f x < n) :
    (pairs M).countP (fun p => f p.2 == f p.1) =
      ((List.range n).map (fun i => M.countP (fun x => f x == i) * (M.countP (fun x => f x == i) - 1) / 2)).sum := by
  induction M with
  | nil => exact (sum_map_zero fun _ _ => by simp).symm
  | cons a M ih =>
    -- `a` is tied with the `t` members of its fibre in `M`, and `t (t - 1) / 2` grows by `t` there (`choose2_succ`)
    have e : ∀ i, (a :: M).countP (fun x => f x == i) * ((a :: M).countP (fun x => f x == i) - 1) / 2 =
        M.countP (fun x => f x == i) * (M.countP (fun x => f x == i) - 1) / 2
          + [a].countP (fun x => f x == i) * M.countP (fun x => f x == i) := by
      intro i
      rw [List.countP_cons, List.countP_singleton]
      split
      · rw [choose2_succ, Nat.one_mul]
      · rw [Nat.add_zero, Nat.zero_mul, Nat.add_zero]
    have hd := sum_fibres [a] f (fun i => M.countP fun x => f x == i) n fun x hx =>
      hf x (List.mem_cons.mpr (.inl (List.mem_singleton.mp hx)))
    simp only [e, sum_map_add, ← hd, pairs_cons, List.countP_append, List.countP_map, Function.comp_def, List.map_cons,
      List.map_nil, List.sum_cons, List.sum_nil, ih fun x hx => hf x (List.mem_cons_of_mem a hx)]
    exact Nat.add_comm ..

end

/-- The shortcuts `t3 > 0` and `t3 > 1` skip terms that are zero; the running remainder is `t_2`. -/
theorem missingLoop_eq (rem : Nat) (lt : List (Nat × Nat)) :
    missingLoop rem lt =
      ((List.zipWith (· * ·) (suffixAfter rem (lt.map (·.2))) (lt.map (·.2))).sum,
        (lt.map (fun p => (p.1 - p.2) * p.2)).sum, (lt.map (fun p => p.2 * (p.2 - 1) / 2)).sum) := by
  fun_induction missingLoop rem lt with
  | case1 rem => rfl
  | case2 rem len t3 rest h rem' r ih =>
    simp only [r, ih, rem', List.map_cons, List.sum_cons, suffixAfter, List.zipWith_cons_cons]
    by_cases h1 : t3 > 1
    · simp [h1]
    · obtain rfl : t3 = 1 := Nat.le_antisymm (Nat.le_of_not_lt h1) h
      simp
  | case3 rem len t3 rest h ih =>
    obtain rfl : t3 = 0 := Nat.eq_zero_of_not_pos h
    simp [ih, suffixAfter]

end C01
end Corankco
