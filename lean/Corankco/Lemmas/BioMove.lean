import Corankco.Lemmas.Sel
import Corankco.Lemmas.Dense
/-
  The two moves of BioConsert (`changeBucket`, `addBucket`): the result is a dense vector whose pairwise comparisons are
  those of the key vector `moveKeys` of the move (so that it scores as the key vector does, `scoreVecN_of_cmp`), and the
  bookkeeping of the maximal bucket id is right (`MoveOK`).  Every move renumbers the cells by `F`, the identity or
  `up p` making room for the new bucket, writes cell `x` and, when `x` was alone, closes the id it left
  (`addBucket_eq`): `move_spec` does this once, the two moves supply the arithmetic of their `F`.
-/
namespace Corankco
open Model Spec
namespace BioSM

theorem length_moveKeys {r : List Nat} {x : Nat} {k : Int} : (moveKeys r x k).length = r.length := by
  simp [moveKeys]

theorem getD_moveKeys {v : List Nat} {x : Nat} {k : Int} {i : Nat} (h : i < v.length) :
    (moveKeys v x k).getD i 0 = if i = x then k else 2 * (Int.ofNat (v.getD i 0)) + 1 := by
  simp [moveKeys, List.getD_eq_getElem?_getD, h]

theorem compare_key (a b : Nat) : compare a b = compare (2 * (a : Int) + 1) (2 * (b : Int) + 1) := by
  rw [compare_add_right, ← compare_natCast]
  simp only [Int.compare_eq_ite_lt, Int.mul_lt_mul_left (show (0 : Int) < 2 by decide)]

theorem scoreVecN_of_cmp (t : Table) (r r' : List Nat) (w : List Int) (hl : r'.length = r.length)
    (hw : w.length = r.length)
    (h : ∀ i k, i < r.length → k < r.length →
      compare (r'.getD i 0) (r'.getD k 0) = compare (w.getD i 0) (w.getD k 0)) :
    scoreVecN t r' = scoreVec t w := by
  unfold scoreVecN
  apply scoreVec_congr
  · rw [List.length_map, hl, hw]
  · intro i j hi hj
    rw [List.length_map, hl] at hi hj
    rw [compare_getD_map_ofNat]
    exact h i j hi hj

theorem scoreVecN_eq_keys (t : Table) (r : List Nat) (x : Nat) :
    scoreVecN t r = scoreVec t (moveKeys r x (2 * (Int.ofNat (r.getD x 0)) + 1)) := by
  have hk : ∀ i, i < r.length →
      (moveKeys r x (2 * (Int.ofNat (r.getD x 0)) + 1)).getD i 0 = 2 * ((r.getD i 0 : Nat) : Int) + 1 := by
    intro i hi
    rw [getD_moveKeys hi]
    exact ite_eq_right_iff.mpr (· ▸ rfl)
  apply scoreVecN_of_cmp t r r _ rfl length_moveKeys
  intro i k hi hk'
  rw [hk i hi, hk k hk']
  exact compare_key _ _

end BioSM
open BioSM

/-- `alone` as a proposition -/
def AloneAt (r : List Nat) (x : Nat) : Prop := ∀ y, y < r.length → y ≠ x → r.getD y 0 ≠ r.getD x 0

namespace BioSM

/-- `r'` is a dense renumbering of `r` that orders the elements as the key vector `w` does, with maximum `M'` -/
def MoveOK (r r' : List Nat) (w : List Int) (M' : Nat) : Prop :=
  DenseN r' ∧ r'.length = r.length ∧
  (∀ i k, i < r.length → k < r.length →
    compare (r'.getD i 0) (r'.getD k 0) = compare (w.getD i 0) (w.getD k 0)) ∧
  r'.foldl max 0 = M'

/-- both windows of `addBucket` open the id `new` and, for a lonely element, close the id it leaves -/
theorem addBucket_eq (r : List Nat) (x old new : Nat) (alone : Bool) :
    addBucket r x old new alone =
      if alone then ((r.map (up new)).set x new).map (down old) else (r.map (up new)).set x new := by
  unfold addBucket
  cases alone
  · simp only [Bool.false_eq_true, if_false, ite_self]
    rfl
  · simp only [if_true, List.map_set, List.map_map]
    split <;>
    · congr 1
      · apply List.map_congr_left
        intro v _
        simp only [Function.comp, up, down]
        split <;> split <;> split <;> omega
      · unfold down
        split <;> omega

/-- closing the unused id `h` by `down b`, where `h` is `b` or `b + 1` (what `up p` makes of `b`) -/
theorem close_hole (s : List Nat) (m h b : Nat) (hs : ∀ c, c ∈ s ↔ c ≤ m + 1 ∧ c ≠ h) (hm : h ≤ m + 1)
    (hbh : b ≤ h) (hhb : h ≤ b + 1) :
    (∀ c, c ∈ s.map (down b) ↔ c ≤ m) ∧
    ∀ i k, i < s.length → k < s.length →
      compare ((s.map (down b)).getD i 0) ((s.map (down b)).getD k 0) = compare (s.getD i 0) (s.getD k 0) := by
  refine ⟨fun c => ?_, fun i k hi hk => ?_⟩
  · rw [List.mem_map]
    constructor
    · rintro ⟨v, hv, rfl⟩
      have := (hs v).mp hv
      unfold down
      split <;> omega
    · intro hc
      by_cases h1 : c < h
      · exact ⟨c, (hs c).mpr (by omega), if_neg (by omega)⟩
      · exact ⟨c + 1, (hs _).mpr (by omega), if_pos (by omega)⟩
  · rw [getD_map_of_lt hi, getD_map_of_lt hk, getD_of_lt hi, getD_of_lt hk]
    refine compare_nat_nat_iff.mpr (strictMono_iff (P := (· ∈ s)) (fun u v hu hv huv => ?_)
      (List.getElem_mem hi) (List.getElem_mem hk))
    have := (hs u).mp hu
    have := (hs v).mp hv
    unfold down
    split <;> split <;> omega

/-- cell `x` receives `X`, and a lonely `x` leaves the id `F b` unused, which `down b` closes; `K` is the key of the
    moved element, `M'` the largest id in use after the write and before the closing (`hv`) -/
theorem move_spec (r : List Nat) (hd : DenseN r) (x : Nat) (hx : x < r.length) (alone : Bool)
    (ha : alone = true ↔ AloneAt r x) (F : Nat → Nat) (X : Nat) (K : Int) (M' : Nat)
    (hFF : ∀ u v, u < v → F u < F v)
    (hXF : ∀ v, (X < F v ↔ K < 2 * (v : Int) + 1) ∧ (X = F v ↔ K = 2 * (v : Int) + 1))
    (hXb : X ≠ F (r.getD x 0)) (hb : r.getD x 0 ≤ F (r.getD x 0) ∧ F (r.getD x 0) ≤ r.getD x 0 + 1)
    (hv : ∀ c, c ≤ M' ↔ c = X ∨ ∃ v, v ≤ r.foldl max 0 ∧ F v = c) :
    MoveOK r (if alone then ((r.map F).set x X).map (down (r.getD x 0)) else (r.map F).set x X)
      (moveKeys r x K) (if alone then M' - 1 else M') := by
  have hM := DenseN.mem_iff_le hd (Nat.zero_lt_of_lt hx)
  generalize hs : (r.map F).set x X = s
  have hlen : s.length = r.length := by rw [← hs, List.length_set, List.length_map]
  have hpt : ∀ i, i < r.length → s.getD i 0 = if i = x then X else F (r.getD i 0) := by
    intro i hi
    rw [← hs, getD_set]
    simp only [List.length_map, hx, and_true]
    split
    · rfl
    · rw [getD_map_of_lt hi, getD_of_lt hi]
  have hmono : ∀ u v, (F u < F v ↔ u < v) ∧ (F u = F v ↔ u = v) := fun u v =>
    strictMono_iff (P := fun _ => True) (fun u v _ _ => hFF u v) trivial trivial
  have hcmp : ∀ i k, i < r.length → k < r.length →
      compare (s.getD i 0) (s.getD k 0) = compare ((moveKeys r x K).getD i 0) ((moveKeys r x K).getD k 0) := by
    intro i k hi hk
    rw [hpt i hi, hpt k hk, getD_moveKeys hi, getD_moveKeys hk]
    by_cases e1 : i = x <;> by_cases e2 : k = x <;> simp only [e1, e2, if_true, if_false, Int.ofNat_eq_natCast]
    · rw [Nat.compare_eq_eq.mpr rfl, Int.compare_eq_eq.mpr rfl]
    · exact compare_nat_int_iff.mpr (hXF _)
    · rw [← Nat.compare_swap, compare_nat_int_iff.mpr (hXF _), Int.compare_swap]
    · exact (compare_nat_nat_iff.mpr (hmono _ _)).trans (compare_key _ _)
  have hval : ∀ c, c ∈ s ↔ c ≤ M' ∧ (alone = true → c ≠ F (r.getD x 0)) := by
    intro c
    rw [mem_iff_getD 0, hlen, hv]
    constructor
    · rintro ⟨i, hi, rfl⟩
      rw [hpt i hi]
      split
      · exact ⟨Or.inl rfl, fun _ => hXb⟩
      · next hix =>
        exact ⟨Or.inr ⟨_, (hM _).mp (getD_mem 0 hi), rfl⟩, fun hal e => ha.mp hal i hi hix ((hmono _ _).2.mp e)⟩
    · rintro ⟨rfl | ⟨v, hvM, rfl⟩, h⟩
      · exact ⟨x, hx, by rw [hpt x hx, if_pos rfl]⟩
      · obtain ⟨k, hk, rfl⟩ := (mem_iff_getD 0).mp ((hM v).mpr hvM)
        by_cases hkx : k = x
        · -- `x` itself has the value: it is not alone, another cell has it too
          subst hkx
          obtain ⟨y, hy, hyk, e⟩ : ∃ y, y < r.length ∧ y ≠ k ∧ r.getD y 0 = r.getD k 0 :=
            Classical.byContradiction fun hno => h (ha.mpr fun y hy hyk e => hno ⟨y, hy, hyk, e⟩) rfl
          exact ⟨y, hy, by rw [hpt y hy, if_neg hyk, e]⟩
        · exact ⟨k, hk, by rw [hpt k hk, if_neg hkx]⟩
  cases alone with
  | false =>
    simp only [Bool.false_eq_true, false_imp_iff, and_true, if_false] at hval ⊢
    obtain ⟨h1, h2⟩ := denseN_of_mem_iff_le s M' hval
    exact ⟨h1, hlen, hcmp, h2⟩
  | true =>
    simp only [forall_const, if_true] at hval ⊢
    have hXM := (hv X).mpr (Or.inl rfl)
    have hbM := (hv _).mpr (Or.inr ⟨_, (hM _).mp (getD_mem 0 hx), rfl⟩)
    cases M' with
    | zero => exact absurd ((Nat.le_zero.mp hXM).trans (Nat.le_zero.mp hbM).symm) hXb
    | succ m =>
      obtain ⟨c1, c2⟩ := close_hole s m _ _ hval hbM hb.1 hb.2
      obtain ⟨h1, h2⟩ := denseN_of_mem_iff_le _ m c1
      exact ⟨h1, (List.length_map _).trans hlen,
        fun i k hi hk => (c2 i k (hlen ▸ hi) (hlen ▸ hk)).trans (hcmp i k hi hk), h2⟩

end BioSM

theorem bio_changeBucket (r : List Nat) (hd : DenseN r) (x : Nat) (hx : x < r.length) (j : Nat)
    (hj : j ≤ r.foldl max 0) (hjb : j ≠ r.getD x 0) (alone : Bool) (ha : alone = true ↔ AloneAt r x) :
    MoveOK r (changeBucket r x (r.getD x 0) j alone) (moveKeys r x (2 * (Int.ofNat j) + 1))
      (if alone then r.foldl max 0 - 1 else r.foldl max 0) := by
  have := move_spec r hd x hx alone ha id j (2 * (Int.ofNat j) + 1) (r.foldl max 0) (fun _ _ h => h)
    (fun v => compare_nat_int_iff.mp (compare_key j v)) hjb ⟨Nat.le_refl _, Nat.le_succ _⟩
    (fun c => ⟨fun h => Or.inr ⟨c, h, rfl⟩, fun h => by rcases h with rfl | ⟨v, h, rfl⟩ <;> assumption⟩)
  rwa [List.map_id] at this

theorem bio_addBucket (r : List Nat) (hd : DenseN r) (x : Nat) (hx : x < r.length) (p : Nat)
    (hp : p ≤ r.foldl max 0 + 1) (alone : Bool) (ha : alone = true ↔ AloneAt r x) :
    MoveOK r (addBucket r x (r.getD x 0) p alone) (moveKeys r x (2 * (Int.ofNat p)))
      (if alone then r.foldl max 0 else r.foldl max 0 + 1) := by
  rw [addBucket_eq]
  apply move_spec r hd x hx alone ha (up p) p _ (r.foldl max 0 + 1) (fun _ _ => up_lt_up p)
  · intro v
    simp only [Int.ofNat_eq_natCast, up]
    split <;> omega
  · exact (up_ne p _).symm
  · unfold up
    split <;> omega
  · intro c
    constructor
    · intro hc
      by_cases e : c = p
      · exact Or.inl e
      · refine Or.inr ⟨down p c, ?_, up_down e⟩
        unfold down
        split <;> omega
    · rintro (rfl | ⟨v, hv, rfl⟩)
      · exact hp
      · unfold up
        split <;> omega

#guard changeBucket [0, 1, 2, 1] 2 2 0 true == [0, 1, 0, 1]
#guard changeBucket [0, 1, 2, 1] 0 0 2 true == [1, 0, 1, 0]
#guard changeBucket [0, 1, 2, 1] 1 1 2 false == [0, 2, 2, 1]
-- the no-op corners `p = b + 1`, `p = b` of a lonely element
#guard addBucket [0, 1, 2, 1] 2 2 3 true == [0, 1, 2, 1]
#guard addBucket [0, 1, 2, 1] 2 2 2 true == [0, 1, 2, 1]
#guard addBucket [0, 1, 2, 1] 2 2 0 true == [1, 2, 0, 2]
#guard addBucket [0, 1, 2, 1] 0 0 3 true == [2, 0, 1, 0]
#guard addBucket [0, 1, 2, 1] 1 1 1 false == [0, 1, 3, 2]
#guard addBucket [0, 1, 2, 1] 1 1 3 false == [0, 3, 2, 1]
#guard moveKeys [0, 1, 2, 1] 1 6 == [1, 6, 5, 3]

example : DenseN (addBucket [0, 1, 2, 1] 1 1 3 false) ∧ (addBucket [0, 1, 2, 1] 1 1 3 false).foldl max 0 = 3 := by
  have h := bio_addBucket [0, 1, 2, 1] (by unfold DenseN; decide) 1 (by decide) 3 (by decide) false
    (by unfold AloneAt; decide)
  exact ⟨h.1, h.2.2.2⟩

end Corankco
