import Corankco.Lemmas.L4
/-
  A pair sum over a concatenation of groups is the pair sums inside the groups plus the cross terms `crossSum`, those
  of an element of an earlier group with one of a later group (`psum_flatten`); so is the score along a partition
  (`scoreVec_eq_add_crossSum`).  Without back arcs the cross terms pay at least `bef`, and exactly `bef` for a key
  vector that respects the groups, so such a vector is no dearer than one that pays as much inside each group
  (`scoreVec_le_of_respects`).
-/
namespace Corankco
open Model Spec
namespace PartSum

def psum (f : Nat → Nat → Int) (l : List Nat) : Int := isum ((pairs l).map fun p => f p.1 p.2)

def cross (f : Nat → Nat → Int) (a b : List Nat) : Int := isum (a.map fun i => isum (b.map fun j => f i j))

@[simp] theorem psum_nil (f : Nat → Nat → Int) : psum f [] = 0 := rfl

theorem psum_cons (f : Nat → Nat → Int) (x : Nat) (xs : List Nat) :
    psum f (x :: xs) = isum (xs.map fun y => f x y) + psum f xs := by
  simp [psum, isum_append, List.map_map, Function.comp_def]

@[simp] theorem cross_nil_left (f : Nat → Nat → Int) (b : List Nat) : cross f [] b = 0 := rfl

theorem cross_cons_left (f : Nat → Nat → Int) (x : Nat) (xs b : List Nat) :
    cross f (x :: xs) b = isum (b.map fun j => f x j) + cross f xs b := rfl

theorem psum_append (f : Nat → Nat → Int) (a b : List Nat) :
    psum f (a ++ b) = psum f a + cross f a b + psum f b := by
  induction a with
  | nil => simp
  | cons x xs ih =>
    rw [List.cons_append, psum_cons, ih, psum_cons, cross_cons_left, List.map_append, isum_append]
    simp +arith only

theorem cross_flatten (f : Nat → Nat → Int) (a : List Nat) (gs : List (List Nat)) :
    cross f a gs.flatten = isum (gs.map fun h => cross f a h) := by
  unfold cross
  rw [isum_map_isum_comm (fun h i => isum (h.map fun j => f i j)) gs a, ← List.flatMap_id]
  exact isum_map_congr fun i _ => isum_flatMap gs id _

def crossSum (f : Nat → Nat → Int) (gs : List (List Nat)) : Int := isum ((pairs gs).map fun p => cross f p.1 p.2)

theorem psum_flatten (f : Nat → Nat → Int) (gs : List (List Nat)) :
    psum f gs.flatten = isum (gs.map fun g => psum f g) + crossSum f gs := by
  induction gs with
  | nil => rfl
  | cons g rest ih =>
    rw [List.flatten_cons, psum_append, ih, cross_flatten]
    simp only [crossSum, List.map_cons, isum_cons, pairs_cons, List.map_append, isum_append, List.map_map,
      Function.comp_def]
    simp +arith only

theorem scoreIds_eq_psum (t : Table) (ids : List Nat) (v : List Int) : scoreIds t ids v = psum (sel t v) ids := rfl

theorem scoreVec_eq_add_crossSum {t : Table} {n : Nat} (hm : MirrorT t n) {groups : List (List Nat)}
    (hp : isPartitionOf n groups = true) {v : List Int} (hv : v.length = n) :
    scoreVec t v = isum (groups.map fun g => scoreIds t g v) + crossSum (sel t v) groups := by
  rw [scoreVec_eq_scoreIds, hv,
    ← scoreIds_perm hm v (L4.partition_perm hp) fun _ => (L4.mem_partition_flatten hp).mp]
  exact psum_flatten (sel t v) groups

theorem cross_le {f g : Nat → Nat → Int} {a b : List Nat} (h : ∀ i ∈ a, ∀ j ∈ b, f i j ≤ g i j) :
    cross f a b ≤ cross g a b :=
  isum_map_le fun i hi => isum_map_le (h i hi)

theorem crossSum_le {f g : Nat → Nat → Int} {gs : List (List Nat)}
    (h : ∀ p ∈ pairs gs, ∀ i ∈ p.1, ∀ j ∈ p.2, f i j ≤ g i j) : crossSum f gs ≤ crossSum g gs :=
  isum_map_le fun p hp => cross_le (h p hp)

theorem crossSum_eq_of_le {f g : Nat → Nat → Int} {gs : List (List Nat)}
    (h : ∀ p ∈ pairs gs, ∀ i ∈ p.1, ∀ j ∈ p.2, f i j ≤ g i j) (hs : crossSum g gs ≤ crossSum f gs) :
    ∀ p ∈ pairs gs, ∀ i ∈ p.1, ∀ j ∈ p.2, f i j = g i j := by
  intro p hp i hi
  have h1 := isum_map_eq_of_le (fun p hp => cross_le (h p hp)) hs p hp
  have h2 := isum_map_eq_of_le (fun i hi => isum_map_le (h p hp i hi)) (Int.le_of_eq h1.symm) i hi
  exact isum_map_eq_of_le (h p hp i hi) (Int.le_of_eq h2.symm)

theorem crossSum_of_respects {t : Table} {groups : List (List Nat)} {v : List Int} (hr : RespectsI groups v) :
    crossSum (sel t v) groups = crossSum (fun i j => t.bef i j) groups :=
  isum_map_congr fun p hp => isum_map_congr fun i hi => isum_map_congr fun j hj =>
    sel_of_lt (hr p hp i hi j hj)

theorem bef_le_sel {t : Table} {groups : List (List Nat)} (hnb : NoBack t groups) (v : List Int) :
    ∀ p ∈ pairs groups, ∀ i ∈ p.1, ∀ j ∈ p.2, t.bef i j ≤ sel t v i j := fun p hp i hi j hj =>
  le_sel t v i j (Int.le_refl _) (hnb p hp i hi j hj).1 (hnb p hp i hi j hj).2

theorem scoreVec_le_of_respects {t : Table} {n : Nat} (hm : MirrorT t n) {groups : List (List Nat)}
    (hp : isPartitionOf n groups = true) (hnb : NoBack t groups) {v w : List Int} (hv : v.length = n)
    (hw : w.length = n) (hr : RespectsI groups v) (hin : ∀ g ∈ groups, scoreIds t g v ≤ scoreIds t g w) :
    scoreVec t v ≤ scoreVec t w := by
  rw [scoreVec_eq_add_crossSum hm hp hv, scoreVec_eq_add_crossSum hm hp hw, crossSum_of_respects hr]
  exact Int.add_le_add (isum_map_le hin) (crossSum_le (bef_le_sel hnb w))

end PartSum
end Corankco
