import Corankco.Model.Kemeny
import Corankco.Lemmas.C01Cross
/-
  The merge-sort-like inversion counting. `mergeCount` on sorted inputs returns the sorted merge and counts the
  cross inversions and the cross ties (`MergeSpec`); `mergeSortLike` on a list of sorted lists sums these over all
  pairs of lists; `tieRun` is the inversion count of `mergeCount` on the diagonal.
-/
namespace Corankco
namespace C01
open Model

def Sorted (l : List Nat) : Prop := l.Pairwise (· ≤ ·)

theorem takeWhile_append_dropWhile' (p : Nat → Bool) (l : List Nat) : l.takeWhile p ++ l.dropWhile p = l :=
  List.takeWhile_append_dropWhile

theorem lt_of_lt_head {a b : Nat} {r : List Nat} (hab : a < b) (h : Sorted (b :: r)) : ∀ y ∈ b :: r, a < y :=
  fun _ hy => (List.mem_cons.mp hy).elim (· ▸ hab) fun hy => Nat.lt_of_lt_of_le hab (List.rel_of_pairwise_cons h hy)

theorem dropWhile_gt {a : Nat} {l : List Nat} (h : Sorted (a :: l)) : ∀ x ∈ l.dropWhile (· == a), a < x := by
  induction l with
  | nil => simp
  | cons b l ih =>
    rw [List.dropWhile_cons]
    split
    · exact ih (h.sublist (.cons_cons a (List.sublist_cons_self b l)))
    · rename_i hb
      exact lt_of_lt_head (Nat.lt_of_le_of_ne (List.rel_of_pairwise_cons h (List.mem_cons_self ..))
        fun e => hb (beq_iff_eq.mpr e.symm)) h.of_cons

theorem sorted_run {a : Nat} {l : List Nat} (h : Sorted (a :: l)) :
    (∀ x ∈ a :: l.takeWhile (· == a), x = a) ∧ (∀ x ∈ l.dropWhile (· == a), a < x) ∧
      Sorted (l.dropWhile (· == a)) := by
  refine ⟨?_, dropWhile_gt h, (List.Pairwise.of_cons h).sublist (List.dropWhile_sublist _)⟩
  intro x hx
  rcases List.mem_cons.mp hx with rfl | hx
  · rfl
  · exact beq_iff_eq.mp (List.all_eq_true.mp List.all_takeWhile x hx)

def MergeSpec (L R : List Nat) (res : List Nat × Nat × Nat) : Prop :=
  res.1.Perm (L ++ R) ∧ Sorted res.1 ∧
    res.2.1 = cross (fun x y => decide (y < x)) L R ∧ res.2.2 = cross (fun x y => y == x) L R

/-- The step of the merge, the same in its three recursive cases: the fronts `L1`, `R1` hold one value and lie strictly
    below the rest of the other side, so the four quadrants of `(L1 ++ L2) × (R1 ++ R2)` are all ties, no inversion,
    all inversions, and the recursive call. -/
theorem MergeSpec.block {L1 L2 R1 R2 : List Nat} {res : List Nat × Nat × Nat} (h : MergeSpec L2 R2 res)
    (hL : Sorted (L1 ++ L2)) (hR : Sorted (R1 ++ R2)) (hE : ∀ x ∈ L1, ∀ y ∈ R1, y = x)
    (hlt : ∀ x ∈ L1, ∀ y ∈ R2, x < y) (hgt : ∀ x ∈ L2, ∀ y ∈ R1, y < x) :
    MergeSpec (L1 ++ L2) (R1 ++ R2)
      (L1 ++ R1 ++ res.1, res.2.1 + R1.length * L2.length, res.2.2 + L1.length * R1.length) := by
  obtain ⟨hp, hs, hg, he⟩ := h
  obtain ⟨sL1, -, hL12⟩ := List.pairwise_append.mp hL
  obtain ⟨sR1, -, hR12⟩ := List.pairwise_append.mp hR
  refine ⟨?_, List.pairwise_append.mpr ⟨List.pairwise_append.mpr ⟨sL1, sR1, fun x hx y hy => ?_⟩, hs,
    fun x hx y hy => ?_⟩, ?_, ?_⟩
  · rw [List.append_assoc, List.append_assoc]
    exact ((hp.append_left _).trans (List.perm_append_comm_assoc ..)).append_left _
  · exact Nat.le_of_eq (hE x hx y hy).symm
  · rcases List.mem_append.mp hx with hx | hx <;> rcases List.mem_append.mp (hp.mem_iff.mp hy) with hy | hy
    · exact hL12 x hx y hy
    · exact Nat.le_of_lt (hlt x hx y hy)
    · exact Nat.le_of_lt (hgt y hy x hx)
    · exact hR12 x hx y hy
  · show res.2.1 + _ = _
    rw [cross_append, cross_eq_zero fun x hx y hy => decide_eq_false (Nat.ne_of_lt · (hE x hx y hy)),
      cross_eq_zero fun x hx y hy => decide_eq_false (Nat.lt_asymm (hlt x hx y hy)),
      cross_eq_mul fun x hx y hy => decide_eq_true (hgt x hx y hy), ← hg, Nat.mul_comm, Nat.zero_add]
    exact Nat.add_comm ..
  · show res.2.2 + _ = _
    rw [cross_append, cross_eq_mul fun x hx y hy => beq_iff_eq.mpr (hE x hx y hy),
      cross_eq_zero fun x hx y hy => beq_false_of_ne (Nat.ne_of_gt (hlt x hx y hy)),
      cross_eq_zero fun x hx y hy => beq_false_of_ne (Nat.ne_of_lt (hgt x hx y hy)), ← he, Nat.add_zero, Nat.zero_add]
    exact Nat.add_comm ..

theorem mergeCount_spec {L R : List Nat} (hL : Sorted L) (hR : Sorted R) : MergeSpec L R (mergeCount L R) := by
  fun_induction mergeCount L R with
  | case1 r => exact ⟨.refl _, hR, rfl, rfl⟩
  | case2 a l => exact ⟨by simp, hL, (cross_nil_right ..).symm, (cross_nil_right ..).symm⟩
  | case3 a l b r hab res ih =>
    simpa using (ih hL.of_cons hR).block (L1 := [a]) (R1 := []) hL hR (fun _ _ _ h => nomatch h)
      (fun x hx => List.mem_singleton.mp hx ▸ lt_of_lt_head hab hR) (fun _ _ _ h => nomatch h)
  | case4 a l b r hab hba res ih =>
    simpa using (ih hL hR.of_cons).block (L1 := []) (R1 := [b]) hL hR (fun _ h => nomatch h) (fun _ h => nomatch h)
      (fun x hx _ hy => List.mem_singleton.mp hy ▸ lt_of_lt_head hba hL x hx)
  | case5 a l b r hab hba l1 l2 r1 r2 res ih =>
    obtain rfl : b = a := Nat.le_antisymm (Nat.le_of_not_lt hab) (Nat.le_of_not_lt hba)
    obtain ⟨hl1, hl2, hl2s⟩ := sorted_run hL
    obtain ⟨hr1, hr2, hr2s⟩ := sorted_run hR
    have hl : (b :: l1) ++ l2 = b :: l := congrArg (b :: ·) (takeWhile_append_dropWhile' _ l)
    have hr : (b :: r1) ++ r2 = b :: r := congrArg (b :: ·) (takeWhile_append_dropWhile' _ r)
    have := (ih hl2s hr2s).block (L1 := b :: l1) (R1 := b :: r1) (hl ▸ hL) (hr ▸ hR)
      (fun x hx y hy => (hr1 y hy).trans (hl1 x hx).symm) (fun x hx y hy => hl1 x hx ▸ hr2 y hy)
      (fun x hx y hy => hr1 y hy ▸ hl2 x hx)
    rwa [hl, hr] at this

theorem tieRun_eq_mergeCount (s : List Nat) : tieRun s = (mergeCount s s).2.1 := by
  fun_induction tieRun s with
  | case1 => rw [mergeCount]
  | case2 a l run rest ih =>
    rw [mergeCount, if_neg (Nat.lt_irrefl a), if_neg (Nat.lt_irrefl a)]
    exact (Nat.add_comm ..).trans (congrArg (· + _) ih)

theorem mergeSortLike_spec (ls : List (List Nat)) (hs : ∀ s ∈ ls, Sorted s) :
    (mergeSortLike ls).1.Perm ls.flatten ∧ Sorted (mergeSortLike ls).1 ∧
      (mergeSortLike ls).2.1 = pairSum (cross fun x y => decide (y < x)) ls ∧
      (mergeSortLike ls).2.2 = pairSum (cross fun x y => y == x) ls := by
  fun_induction mergeSortLike ls with
  | case1 => exact ⟨.refl _, List.Pairwise.nil, rfl, rfl⟩
  | case2 x => exact ⟨by simp, hs x (List.mem_cons_self ..), rfl, rfl⟩
  | case3 x y rest k iha _ _ ihb =>
    obtain ⟨pA, sA, gA, eA⟩ := iha fun s h => hs s (List.mem_of_mem_take h)
    obtain ⟨pB, sB, gB, eB⟩ := ihb fun s h => hs s (List.mem_of_mem_drop h)
    obtain ⟨hp, hm, hgt, heq⟩ := mergeCount_spec sA sB
    have e := List.take_append_drop k (x :: y :: rest)
    refine ⟨hp.trans ((pA.append pB).trans ?_), hm, ?_, ?_⟩
    · rw [← List.flatten_append, e]
    · show _ + _ + _ = _
      rw [gA, gB, hgt, cross_perm pA pB, ← pairSum_cross_append, e]
    · show _ + _ + _ = _
      rw [eA, eB, heq, cross_perm pA pB, ← pairSum_cross_append, e]

theorem insertSorted_eq_merge (a : Nat) (l : List Nat) :
    insertSorted a l = [a].merge l (fun x y => decide (x ≤ y)) := by
  induction l with
  | nil => exact (List.merge_right ..).symm
  | cons b l ih => simp only [insertSorted, List.cons_merge_cons, ih, List.nil_merge, decide_eq_true_eq]

theorem sortNat_spec (l : List Nat) : (sortNat l).Perm l ∧ Sorted (sortNat l) := by
  induction l with
  | nil => exact ⟨.refl _, .nil⟩
  | cons a l ih =>
    rw [sortNat, insertSorted_eq_merge]
    exact ⟨(List.merge_perm_append _).trans (ih.1.cons a),
      (List.pairwise_merge (fun _ _ _ => by simpa only [decide_eq_true_eq] using Nat.le_trans) (fun a b => by simpa using Nat.le_total a b) _ _
        (List.pairwise_singleton ..) (ih.2.imp decide_eq_true)).imp of_decide_eq_true⟩

theorem mergeSortLike_sortNat {α : Type} (f : α → Nat) (r : List (List α)) :
    (mergeSortLike (r.map fun b => sortNat (b.map f))).2 =
      (pairSum (cross fun x y => decide (f y < f x)) r, pairSum (cross fun x y => f y == f x) r) := by
  obtain ⟨_, _, hgt, heq⟩ := mergeSortLike_spec (r.map fun b => sortNat (b.map f)) fun s hs => by
    obtain ⟨b, _, rfl⟩ := List.mem_map.mp hs
    exact (sortNat_spec _).2
  have key : ∀ P : Nat → Nat → Bool, pairSum (cross P) (r.map fun b => sortNat (b.map f)) =
      pairSum (cross fun x y => P (f x) (f y)) r := fun P => by
    rw [pairSum_map]
    exact pairSum_congr fun a _ b _ => (cross_perm (sortNat_spec _).1 (sortNat_spec _).1).trans (cross_map ..)
  exact Prod.ext (hgt.trans (key _)) (heq.trans (key _))

theorem tieRun_sortNat {α : Type} (f : α → Nat) (b : List α) :
    tieRun (sortNat (b.map f)) = cross (fun x y => decide (f x < f y)) b b := by
  rw [tieRun_eq_mergeCount, (mergeCount_spec (sortNat_spec _).2 (sortNat_spec _).2).2.2.1,
    cross_perm (sortNat_spec _).1 (sortNat_spec _).1, cross_map, cross_swap]

end C01
end Corankco
