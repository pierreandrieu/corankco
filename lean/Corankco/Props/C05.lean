import Corankco.Lemmas.Exact
import Corankco.Props.C06
import Corankco.Lemmas.WeakOrders
/-
  C05 — the exact algorithm returns a global optimum, with or without CPLEX.  The solver is a parameter: the theorems
  speak of any optimal feasible 0/1 point of the rows the model builds.  The 0/1 program is a faithful model of rank
  aggregation with ties, so such a point decodes to a global optimum (`C05_optimal`), also under the PuLP pruning rows
  and the no-tie rows of the CPLEX models; the exhaustive oracle of the harness is exact (L3).  The optimised
  (per-component) path is in Props/C05d.lean.
-/
namespace Corankco
open Model Spec

/-- every ranking with ties is a feasible 0/1 point of the binary + transitivity rows -/
theorem C05_asg_feasible (n : Nat) (v : List Int) (hv : v.length = n) :
    feasible (asgOfVec v) n (binaryRows n ++ transRows n) = true := by
  have _ := hv
  exact (Exact.feasible_iff _ n).mpr (Exact.feas_asgOfVec v n)

/-- and the objective there is its generalised Kemeny score -/
theorem C05_objective (t : Table) (n : Nat) (hm : MirrorT t n) (v : List Int) (hv : v.length = n) :
    evalLin (asgOfVec v) (objective t n) = scoreVec t v :=
  Exact.evalLin_objective_eq t n hm _ v hv fun _ _ _ _ _ => ⟨rfl, rfl⟩

/-- conversely every feasible 0/1 point agrees, on the variables of the `n` ids, with the encoding of a ranking with
    ties: that of its defeat counts -/
theorem C05_feasible_is_ranking (n : Nat) (a : Asg) (h : feasible a n (binaryRows n ++ transRows n) = true) :
    let c : List Int := (defeatCounts a n).map fun k => Int.ofNat k
    ∀ i j, i < n → j < n → i ≠ j →
      a (.x i j) = asgOfVec c (.x i j) ∧ a (tvar i j) = asgOfVec c (tvar i j) := by
  intro c i j hi hj hij
  exact ((Exact.feasible_iff a n).mp h).eq_asgOfVec_cvec i j hi hj hij

/-- the decoder returns a partition of the ids into non-empty buckets ordered by increasing defeat count -/
theorem C05_decode (n : Nat) (hn : 0 < n) (a : Asg) (h : feasible a n (binaryRows n ++ transRows n) = true) :
    isPartitionOf n (decode a n) = true ∧
    ∀ i j, i < n → j < n →
      compare ((vecOfIds n (decode a n)).getD i 0) ((vecOfIds n (decode a n)).getD j 0) =
        compare ((defeatCounts a n).getD i 0) ((defeatCounts a n).getD j 0) := by
  obtain ⟨i0, h0, hz⟩ := ((Exact.feasible_iff a n).mp h).exists_zero 0 hn
  have := Exact.decodeCounts_orders (defeatCounts a n) i0 (by rwa [Exact.defeatCounts_length])
    ((Exact.defeatCounts_getD a n i0 h0).trans hz)
  rw [Exact.defeatCounts_length] at this
  exact Exact.ordersBy_range this

/-- hence the objective of a feasible point is the score of the decoded ranking -/
theorem C05_objective_decode (t : Table) (n : Nat) (hn : 0 < n) (hm : MirrorT t n) (a : Asg)
    (h : feasible a n (binaryRows n ++ transRows n) = true) :
    evalLin a (objective t n) = scoreVec t ((vecOfIds n (decode a n)).map fun k => Int.ofNat k) := by
  rw [((Exact.feasible_iff a n).mp h).objective_eq t hm]
  refine scoreVec_congr t _ _ (by simp [Exact.cvec_length, vecOfIds]) fun i j hi hj => ?_
  rw [Exact.cvec_length] at hi hj
  rw [Exact.cvec, compare_getD_map_ofNat, compare_getD_map_ofNat]
  exact ((C05_decode n hn a h).2 i j hi hj).symm

/-- C05 (non-optimised model): IF the solver returns an optimal feasible point of the rows the model builds, the
    decoded ranking is a global optimum -/
theorem C05_optimal (t : Table) (n : Nat) (hn : 0 < n) (hm : MirrorT t n) (a : Asg)
    (hf : feasible a n (binaryRows n ++ transRows n) = true)
    (hmin : ∀ b : Asg, feasible b n (binaryRows n ++ transRows n) = true →
        evalLin a (objective t n) ≤ evalLin b (objective t n)) :
    Optimal t n ((vecOfIds n (decode a n)).map fun k => Int.ofNat k) := by
  refine ⟨by simp [vecOfIds], fun w hw => ?_⟩
  rw [← C05_objective_decode t n hn hm a hf, ← C05_objective t n hm w hw]
  exact hmin _ (C05_asg_feasible n w hw)

namespace C05a

/-- extra rows that some optimal ranking satisfies are sound: an optimal feasible point of the enlarged program still
    decodes to a global optimum -/
theorem optimal_of_rows (t : Table) (n : Nat) (hn : 0 < n) (hm : MirrorT t n) (extra : List Row)
    (v : List Int) (hv : Optimal t n v) (hve : extra.all (satisfies (asgOfVec v)) = true) (a : Asg)
    (hf : feasible a n (binaryRows n ++ transRows n ++ extra) = true)
    (hmin : ∀ b : Asg, feasible b n (binaryRows n ++ transRows n ++ extra) = true →
        evalLin a (objective t n) ≤ evalLin b (objective t n)) :
    Optimal t n ((vecOfIds n (decode a n)).map fun k => Int.ofNat k) := by
  refine ⟨by simp [vecOfIds], fun w hw => ?_⟩
  rw [← C05_objective_decode t n hn hm a ((Exact.feasible_append a n _ extra).mp hf).1]
  have h1 := hmin _ ((Exact.feasible_append _ n _ extra).mpr ⟨C05_asg_feasible n v hv.1, hve⟩)
  rw [C05_objective t n hm v hv.1] at h1
  exact Int.le_trans h1 (hv.2 w hw)

/-- conversely the encoding of an optimal ranking that satisfies the extra rows is an optimal feasible point -/
theorem encoding_minimal (t : Table) (n : Nat) (hm : MirrorT t n) (extra : List Row)
    (v : List Int) (hv : Optimal t n v) (hve : extra.all (satisfies (asgOfVec v)) = true) :
    feasible (asgOfVec v) n (binaryRows n ++ transRows n ++ extra) = true ∧
    ∀ b : Asg, feasible b n (binaryRows n ++ transRows n ++ extra) = true →
      evalLin (asgOfVec v) (objective t n) ≤ evalLin b (objective t n) := by
  refine ⟨(Exact.feasible_append _ n _ extra).mpr ⟨C05_asg_feasible n v hv.1, hve⟩, fun b hb => ?_⟩
  have hF := (Exact.feasible_iff b n).mp ((Exact.feasible_append b n _ extra).mp hb).1
  rw [C05_objective t n hm v hv.1, hF.objective_eq t hm]
  exact hv.2 _ (Exact.cvec_length b n)

end C05a

/-- all optima, one direction: the encoding of every optimal ranking is an optimal feasible point (the equivalence is
    `C05_all_iff`) -/
theorem C05_all (t : Table) (n : Nat) (hm : MirrorT t n) (v : List Int) (hv : Optimal t n v) :
    feasible (asgOfVec v) n (binaryRows n ++ transRows n) = true ∧
    ∀ b : Asg, feasible b n (binaryRows n ++ transRows n) = true →
      evalLin (asgOfVec v) (objective t n) ≤ evalLin b (objective t n) := by
  have := C05a.encoding_minimal t n hm [] v hv rfl
  rwa [List.append_nil] at this

/-- PuLP pruning rows are sound: with the components in topological order, an optimal feasible point of the PRUNED
    problem still decodes to a global optimum -/
theorem C05_optimal_pulp (t : Table) (n : Nat) (hn : 0 < n) (hm : MirrorT t n) (comps : List (List Nat))
    (hc : isTopoSCC t n comps = true) (a : Asg)
    (hf : feasible a n (rowsPulp n comps) = true)
    (hmin : ∀ b : Asg, feasible b n (rowsPulp n comps) = true →
        evalLin a (objective t n) ≤ evalLin b (objective t n)) :
    Optimal t n ((vecOfIds n (decode a n)).map fun k => Int.ofNat k) := by
  obtain ⟨v0, hv0⟩ := exists_optimal t n
  obtain ⟨v', hopt, hresp⟩ := C06_partition t n hm comps hc v0 hv0
  exact C05a.optimal_of_rows t n hn hm (pulpPruneRows comps) v' hopt (Exact.pulpPrune_asgOfVec comps v' hresp) a hf hmin

/-- back-end selection (as repaired): PuLP exactly when the cplex module is unavailable -/
theorem C05_select : selectBackend false = .pulp ∧ selectBackend true = .cplex := ⟨rfl, rfl⟩

/-! ### the exhaustive oracle -/

/-- densification: every key vector has the same pairwise comparisons as a dense Nat vector of the same length -/
theorem exists_dense_same_cmp (v : List Int) :
    ∃ d : List Nat, d.length = v.length ∧ DenseN d ∧
      ∀ i j, i < v.length → j < v.length →
        compare (v.getD i 0) (v.getD j 0) = compare (d.getD i 0) (d.getD j 0) :=
  WO.exists_dense_same_cmp v

/-- L3: the enumeration is complete and sound: the members of `allWeakOrders n` are exactly the dense vectors of
    length n -/
theorem allWeakOrders_spec (n : Nat) (d : List Nat) :
    d ∈ allWeakOrders n ↔ (d.length = n ∧ DenseN d) :=
  WO.allWeakOrders_spec n d

/-- … and duplicate-free -/
theorem allWeakOrders_nodup (n : Nat) : (allWeakOrders n).Nodup :=
  WO.allWeakOrders_nodup n

/-- the executable oracle is the true optimum: `optScore t n` is the score of every optimal ranking, and is a lower
    bound for every ranking -/
theorem optScore_spec (t : Table) (n : Nat) :
    (∀ v : List Int, v.length = n → optScore t n ≤ scoreVec t v) ∧
    (∀ v : List Int, Optimal t n v → scoreVec t v = optScore t n) :=
  WO.optScore_spec t n

/-- `optima t n` lists exactly the dense optimal vectors -/
theorem optima_spec (t : Table) (n : Nat) (d : List Nat) :
    d ∈ optima t n ↔ (d.length = n ∧ DenseN d ∧ Optimal t n (d.map fun b => Int.ofNat b)) :=
  WO.optima_spec t n d

/-- the no-tie pruning of the CPLEX models is sound (with threshold 0 = the code's 0.001 on costs that are integer
    multiples of a unit larger than 0.001): if tying never beats the average of the two strict orders, some optimal
    ranking has no ties -/
theorem C05_prune_noties (t : Table) (n : Nat) (hm : MirrorT t n) (h : noTieOK t n 0 = true) :
    ∃ v : List Int, Optimal t n v ∧ ∀ i j, i < n → j < n → i ≠ j → v.getD i 0 ≠ v.getD j 0 := by
  have _ := hm  -- the mirror law is not needed: only the pairs `i < j` enter the score
  obtain ⟨v, hv⟩ := exists_optimal t n
  obtain ⟨w, hl, hs, hne⟩ := WO.prune_noties t n h v hv.1
  exact ⟨w, ⟨hl, fun u hu => Int.le_trans hs (hv.2 u hu)⟩, hne⟩

/-! ### the CPLEX models -/

namespace C05c

theorem feasible_cplex_iff (t : Table) (a : Asg) (n : Nat) (θ : Int) (active : Bool) :
    feasible a n (rowsCplex t n θ active) = true ↔
      feasible a n (binaryRows n ++ transRows n) = true ∧
        (cplexPruneRows t n θ active).all (satisfies a) = true :=
  Exact.feasible_append a n _ _

theorem cplexPrune_false (t : Table) (n : Nat) (θ : Int) : cplexPruneRows t n θ false = [] := by
  simp [cplexPruneRows]

theorem feasible_cplex_false_iff (t : Table) (a : Asg) (n : Nat) (θ : Int) :
    feasible a n (rowsCplex t n θ false) = true ↔ feasible a n (binaryRows n ++ transRows n) = true := by
  rw [feasible_cplex_iff, cplexPrune_false]; simp

theorem cplexPrune_asgOfVec (t : Table) (n : Nat) (θ : Int) (active : Bool) (v : List Int)
    (hne : ∀ i j, i < n → j < n → i ≠ j → v.getD i 0 ≠ v.getD j 0) :
    (cplexPruneRows t n θ active).all (satisfies (asgOfVec v)) = true := by
  unfold cplexPruneRows
  split
  · rw [List.all_map, List.all_eq_true, Exact.forall_ltPairs]
    intro i j hij hj
    simp only [Function.comp_def, Exact.satisfies_eq, Exact.evalLin_cons, Exact.evalLin_nil, asgOfVec,
      if_neg (hne i j (Nat.lt_trans hij hj) hj (Nat.ne_of_lt hij))]
    rfl
  · rfl

theorem exists_optimal_noTie (t : Table) (n : Nat) (hm : MirrorT t n) (active : Bool) :
    ∃ v : List Int, Optimal t n v ∧ (cplexPruneRows t n 0 active).all (satisfies (asgOfVec v)) = true := by
  by_cases hp : (active && noTieOK t n 0) = true
  · obtain ⟨v, hv, hne⟩ := C05_prune_noties t n hm (Bool.and_eq_true_iff.mp hp).2
    exact ⟨v, hv, cplexPrune_asgOfVec t n 0 active v hne⟩
  · obtain ⟨v, hv⟩ := exists_optimal t n
    refine ⟨v, hv, ?_⟩
    unfold cplexPruneRows
    rw [if_neg hp]
    rfl

end C05c

/-- CPLEX models (non-optimised, optimised sub-problems, paper-optim1): with or without the no-tie rows, an optimal
    feasible point of the rows the model builds decodes to a global optimum -/
theorem C05_optimal_cplex (t : Table) (n : Nat) (hn : 0 < n) (hm : MirrorT t n) (active : Bool) (a : Asg)
    (hf : feasible a n (rowsCplex t n 0 active) = true)
    (hmin : ∀ b : Asg, feasible b n (rowsCplex t n 0 active) = true →
        evalLin a (objective t n) ≤ evalLin b (objective t n)) :
    Optimal t n ((vecOfIds n (decode a n)).map fun k => Int.ofNat k) := by
  obtain ⟨v, hv, hve⟩ := C05c.exists_optimal_noTie t n hm active
  exact C05a.optimal_of_rows t n hn hm _ v hv hve a hf hmin

/-- all optima (non-optimised model, no pruning rows): a feasible point is optimal iff it decodes to an optimum -/
theorem C05_all_iff (t : Table) (n : Nat) (hn : 0 < n) (hm : MirrorT t n) (a : Asg)
    (hf : feasible a n (rowsCplex t n 0 false) = true) :
    (∀ b : Asg, feasible b n (rowsCplex t n 0 false) = true → evalLin a (objective t n) ≤ evalLin b (objective t n))
      ↔ Optimal t n ((vecOfIds n (decode a n)).map fun k => Int.ofNat k) := by
  refine ⟨C05_optimal_cplex t n hn hm false a hf, fun hopt b hb => ?_⟩
  rw [C05_objective_decode t n hn hm a ((C05c.feasible_cplex_false_iff t a n 0).mp hf),
    ← C05_objective t n hm _ hopt.1]
  exact (C05_all t n hm _ hopt).2 b ((C05c.feasible_cplex_false_iff t b n 0).mp hb)

end Corankco
