import Corankco.Model.Kemeny
import Corankco.Lemmas.Status
/-
  The pair counters `nOrd` / `nTie` in which `C01_counts` is stated, and the score against one ranking as the dot
  product of these counters with the two penalty vectors (valid for every scheme).
-/
namespace Corankco
namespace C01
open Model Spec

/-- status of the pair in `r`, read from the element placed first in `c`, when `c` orders the two elements -/
def ordStatus (c r : Ranking) (x y : Elem) : Option Nat :=
  match bucketIdx c x, bucketIdx c y with
  | some i, some j =>
      if i < j then some (status r x y) else if j < i then some (status r y x) else none
  | _, _ => none

def tieStatus (c r : Ranking) (x y : Elem) : Option Nat :=
  match bucketIdx c x, bucketIdx c y with
  | some i, some j => if i = j then some (status r x y) else none
  | _, _ => none

def nOrd (c r : Ranking) (k : Nat) : Nat :=
  (pairs c.flatten).countP (fun p => ordStatus c r p.1 p.2 == some k)

def nTie (c r : Ranking) (k : Nat) : Nat :=
  (pairs c.flatten).countP (fun p => tieStatus c r p.1 p.2 == some k)

theorem ordStatus_lt {c r : Ranking} {x y : Elem} {k : Nat} (h : ordStatus c r x y = some k) : k < 6 := by
  unfold ordStatus at h
  split at h
  · split at h
    · exact Option.some.inj h ▸ status_lt_6 r x y
    · split at h
      · exact Option.some.inj h ▸ status_lt_6 r y x
      · cases h
  · cases h

theorem tieStatus_lt {c r : Ranking} {x y : Elem} {k : Nat} (h : tieStatus c r x y = some k) : k < 6 := by
  unfold tieStatus at h
  split at h
  · split at h
    · exact Option.some.inj h ▸ status_lt_6 r x y
    · cases h
  · cases h

theorem pen_eq (S : Scheme) (r c : Ranking) (x y : Elem) :
    pen S r c x y = (ordStatus c r x y).elim 0 S.B + (tieStatus c r x y).elim 0 S.T := by
  unfold pen ordStatus tieStatus
  cases bucketIdx c x <;> cases bucketIdx c y <;> simp only [Option.elim, Int.add_zero]
  rename_i i j
  rcases Nat.lt_trichotomy i j with h | h | h
  · simp [h, Nat.ne_of_lt h]
  · simp [h]
  · simp [h, Nat.lt_asymm h, Nat.ne_of_gt h]

theorem kemenyOne_eq_dot (S : Scheme) (c r : Ranking) :
    kemenyOne S c r =
      dot ((List.range 6).map (nOrd c r)) S.bList + dot ((List.range 6).map (nTie c r)) S.tList := by
  unfold kemenyOne
  simp only [pen_eq, isum_map_add]
  rw [isum_fibres S.B (fun p => ordStatus c r p.1 p.2) 6 (pairs c.flatten) (fun _ _ _ => ordStatus_lt),
    isum_fibres S.T (fun p => tieStatus c r p.1 p.2) 6 (pairs c.flatten) (fun _ _ _ => tieStatus_lt)]
  rfl

end C01
end Corankco
