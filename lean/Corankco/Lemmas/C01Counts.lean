import Corankco.Lemmas.C01Defs
import Corankco.Lemmas.C01Cross
/-
  The pair counters `nOrd` / `nTie` as double counts over `c.flatten × c.flatten`; such a double count restricted to
  one status of `r`, evaluated from the buckets of `r` and the elements it leaves unranked; the resulting table
  `closed` of the counters that `costByRanking` computes.
-/
namespace Corankco
namespace C01
open Model Spec

def ltc (c : Ranking) (x y : Elem) : Bool := decide (bIdx c x < bIdx c y)

/-- the second key first, as in the tie test of `mergeCount` -/
def eqc (c : Ranking) (x y : Elem) : Bool := bIdx c y == bIdx c x

theorem eqc_comm (c : Ranking) (x y : Elem) : eqc c x y = eqc c y x :=
  Bool.beq_comm

/-- A pair that `c` orders is counted once in the double count, in the orientation that `c` gives it. -/
theorem nOrd_eq_cross (c r : Ranking) (k : Nat) :
    nOrd c r k = cross (fun x y => ltc c x y && (status r x y == k)) c.flatten c.flatten := by
  rw [cross_pairs, (List.countP_eq_zero (l := c.flatten)).mpr fun x _ h => by simp [ltc] at h, Nat.add_zero]
  refine countP_split fun p hp => ?_
  obtain ⟨h1, h2⟩ := mem_pairs p hp
  simp only [ordStatus, bucketIdx_eq_bIdx h1, bucketIdx_eq_bIdx h2, ltc]
  rcases Nat.lt_trichotomy (bIdx c p.1) (bIdx c p.2) with h | h | h
  · simp [h, Nat.lt_asymm h]
  · simp [h]
  · simp [h, Nat.lt_asymm h]

theorem nTie_eq (c r : Ranking) (k : Nat) :
    nTie c r k = (pairs c.flatten).countP (fun p => eqc c p.1 p.2 && (status r p.1 p.2 == k)) := by
  apply List.countP_congr
  intro p hp
  obtain ⟨h1, h2⟩ := mem_pairs p hp
  simp only [tieStatus, bucketIdx_eq_bIdx h1, bucketIdx_eq_bIdx h2, eqc]
  by_cases a : bIdx c p.1 = bIdx c p.2
  · simp [a]
  · simp [a, Ne.symm a]

/-- Each tied pair of status `k` or `swapSt k` is counted once, in the orientation that gives it status `k`. -/
theorem nTie_add_swap (c r : Ranking) (k : Nat) (hk : swapSt k ≠ k) :
    nTie c r k + nTie c r (swapSt k) =
      cross (fun x y => eqc c x y && (status r x y == k)) c.flatten c.flatten := by
  have hd : c.flatten.countP (fun x => eqc c x x && (status r x x == k)) = 0 :=
    List.countP_eq_zero.mpr fun x _ h => by
      simp only [Bool.and_eq_true, beq_iff_eq] at h
      have := status_swap r x x
      rw [h.2] at this
      exact hk this.symm
  rw [cross_pairs, nTie_eq, nTie_eq, hd, Nat.add_zero]
  refine congrArg (_ + ·) (List.countP_congr fun p _ => ?_)
  rw [eqc_comm c p.2 p.1, status_swap r p.1 p.2]
  simp only [Bool.and_eq_true, beq_iff_eq]
  exact and_congr_right fun _ => ⟨fun h => by rw [h, swapSt_swapSt], fun h => by rw [← h, swapSt_swapSt]⟩

theorem cross_status_ranked (F : Elem → Elem → Bool) (k : Nat) (r : Ranking) (hr : r.flatten.Nodup) :
    cross (fun x y => F x y && (status r x y == k)) r.flatten r.flatten =
      (if k = 0 then pairSum (cross F) r else 0)
      + (if k = 1 then pairSum (cross fun x y => F y x) r else 0)
      + (if k = 2 then (r.map fun a => cross F a a).sum else 0) := by
  induction r with
  | nil => simp [pairSum_nil]
  | cons b bs ih =>
    rw [List.flatten_cons] at hr ⊢
    obtain ⟨_, hbs, hd⟩ := List.nodup_append.mp hr
    have hdisj : ∀ x ∈ bs.flatten, x ∉ b := fun x hx hxb => hd x hxb x hx rfl
    have h4 : cross (fun x y => F x y && (status (b :: bs) x y == k)) bs.flatten bs.flatten =
        cross (fun x y => F x y && (status bs x y == k)) bs.flatten bs.flatten :=
      cross_congr fun x hx y hy => by rw [status_cons, if_neg (hdisj x hx), if_neg (hdisj y hy)]
    -- the four quadrants of `(b ++ bs.flatten)²`: `b × b` is tied (2), `b × rest` ordered (0), `rest × b` reversed (1),
    -- `rest × rest` is the induction
    rw [cross_append,
      cross_and_const F (k₀ := 2) (fun x hx y hy => by rw [status_cons, if_pos hx, if_pos hy]) k,
      cross_and_const F (k₀ := 0) (fun x hx y hy => by
        rw [status_cons, if_pos hx, if_neg (hdisj y hy), if_pos hy]) k,
      cross_and_const F (k₀ := 1) (fun x hx y hy => by
        rw [status_cons, if_neg (hdisj x hx), if_pos hy, if_pos hx]) k,
      h4, ih hbs, pairSum_cons, pairSum_cons, List.map_cons, List.sum_cons, ite_add_zero, ite_add_zero, ite_add_zero,
      cross_flatten_right, cross_swap F bs.flatten, cross_flatten_right]
    simp +arith only

def missing (c r : Ranking) : List Elem := c.flatten.filter fun x => !(r.flatten.contains x)

theorem missing_not_mem (c r : Ranking) : ∀ x ∈ missing c r, x ∉ r.flatten := fun _ hx =>
  by simpa only [Bool.not_eq_true', List.contains_eq_mem, decide_eq_false_iff_not] using (List.mem_filter.mp hx).2

theorem nTie_5 (c r : Ranking) : nTie c r 5 = (pairs (missing c r)).countP fun p => eqc c p.1 p.2 := by
  rw [nTie_eq, missing, pairs_filter, List.countP_filter]
  apply List.countP_congr
  intro p _
  simp only [Bool.and_eq_true, beq_iff_eq, status_eq_5_iff, Bool.not_eq_true', List.contains_eq_mem,
    decide_eq_false_iff_not]

section
variable (c r : Ranking) (hc : c.flatten.Nodup) (hr : r.flatten.Nodup) (hsub : ∀ x ∈ r.flatten, x ∈ c.flatten)
include hc hr hsub

theorem flatten_perm_append_missing : c.flatten.Perm (r.flatten ++ missing c r) := by
  have hnd : (r.flatten ++ missing c r).Nodup :=
    List.nodup_append.mpr ⟨hr, hc.filter _, fun x hx y hy e => missing_not_mem c r y hy (e ▸ hx)⟩
  rw [List.perm_ext_iff_of_nodup hc hnd]
  intro x
  rw [List.mem_append, missing, List.mem_filter]
  by_cases hx : x ∈ r.flatten
  · exact ⟨fun _ => .inl hx, fun _ => hsub x hx⟩
  · exact ⟨fun h => .inr ⟨h, by simp [hx]⟩, fun h => h.elim (absurd · hx) (·.1)⟩

theorem cross_status (F : Elem → Elem → Bool) (k : Nat) :
    cross (fun x y => F x y && (status r x y == k)) c.flatten c.flatten =
      (if k = 0 then pairSum (cross F) r else 0)
      + (if k = 1 then pairSum (cross fun x y => F y x) r else 0)
      + (if k = 2 then (r.map fun a => cross F a a).sum else 0)
      + (if k = 3 then cross F r.flatten (missing c r) else 0)
      + (if k = 4 then cross (fun x y => F y x) r.flatten (missing c r) else 0)
      + (if k = 5 then cross F (missing c r) (missing c r) else 0) := by
  have hM := missing_not_mem c r
  rw [cross_perm (flatten_perm_append_missing c r hc hr hsub) (flatten_perm_append_missing c r hc hr hsub), cross_append,
    cross_status_ranked F k r hr,
    cross_and_const F (k₀ := 3) (fun x hx y hy => status_of_mem_of_not_mem hx (hM y hy)) k,
    cross_and_const F (k₀ := 4) (fun x hx y hy => status_of_not_mem_of_mem (hM x hx) hy) k,
    cross_and_const F (k₀ := 5) (fun x hx y hy => (status_eq_5_iff r x y).mpr ⟨hM x hx, hM y hy⟩) k,
    cross_swap F (missing c r)]
  exact (Nat.add_assoc ..).symm

/-- Pairs that `c` orders: `s_1[1]` reversed in `r`, `s_1[2]` tied in `r`, `s_1[3]` only the first one ranked,
    `s_1[4]` only the second one ranked, `s_1[5]` none ranked. Pairs that `c` ties: `s_2[0]` strictly ordered in `r`,
    `s_2[3]` exactly one ranked, `s_2[5]` none ranked. -/
def closed : List Nat × List Nat :=
  ([0, pairSum (cross fun x y => ltc c y x) r, (r.map fun a => cross (ltc c) a a).sum,
      cross (ltc c) r.flatten (missing c r), cross (fun x y => ltc c y x) r.flatten (missing c r),
      cross (ltc c) (missing c r) (missing c r)],
    [pairSum (cross (eqc c)) r, 0, 0, cross (eqc c) r.flatten (missing c r), 0,
      (pairs (missing c r)).countP fun p => eqc c p.1 p.2])

theorem counts_closed :
    ([0, nOrd c r 1, nOrd c r 2, nOrd c r 3, nOrd c r 4, nOrd c r 5],
      [nTie c r 0 + nTie c r 1, 0, 0, nTie c r 3 + nTie c r 4, 0, nTie c r 5]) = closed c r := by
  have hO := fun k => (nOrd_eq_cross c r k).trans (cross_status c r hc hr hsub (ltc c) k)
  have hT := fun k hk => (nTie_add_swap c r k hk).trans (cross_status c r hc hr hsub (eqc c) k)
  rw [hO 1, hO 2, hO 3, hO 4, hO 5, show nTie c r 0 + nTie c r 1 = _ from hT 0 (by decide),
    show nTie c r 3 + nTie c r 4 = _ from hT 3 (by decide), nTie_5]
  simp only [Nat.reduceEqDiff, reduceIte, Nat.zero_add, Nat.add_zero]
  rfl

end
end C01
end Corankco
