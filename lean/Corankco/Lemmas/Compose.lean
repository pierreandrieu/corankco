import Corankco.Lemmas.Exact
/-
  Bucket indices in a concatenation `comps.flatMap f` of component rankings: an id of an earlier component comes
  strictly before one of a later component (`bIdx_flatMap_lt`), and inside a component the index is the one in `f g`
  shifted by the number of buckets that stand before (`bIdx_flatMap_offset`).
-/
namespace Corankco
open Model Spec

namespace Compose

theorem getD_map_vecOfIds {n : Nat} {cons : List (List Nat)} {i : Nat} (hi : i < n) :
    ((vecOfIds n cons).map fun k => Int.ofNat k).getD i 0 = bIdx cons i := by
  rw [getD_map_ofNat, Exact.vecOfIds_getD n cons i hi]
  rfl

section flatMap
variable (f : List Nat → List (List Nat))

theorem flatMap_flatten_perm (comps : List (List Nat)) (hf : ∀ c ∈ comps, (f c).flatten.Perm c) :
    (comps.flatMap f).flatten.Perm comps.flatten := by
  induction comps with
  | nil => simp
  | cons c cs ih =>
    rw [List.flatMap_cons, List.flatten_append, List.flatten_cons]
    exact List.Perm.append (hf c List.mem_cons_self) (ih fun c' hc => hf c' (List.mem_cons_of_mem c hc))

theorem bIdx_flatMap_lt (comps : List (List Nat)) (hnd : (comps.flatMap f).flatten.Nodup)
    (hf : ∀ c ∈ comps, (f c).flatten.Perm c) :
    ∀ p ∈ pairs comps, ∀ i ∈ p.1, ∀ j ∈ p.2, bIdx (comps.flatMap f) i < bIdx (comps.flatMap f) j := by
  intro p hpp i hi j hj
  obtain ⟨h1, h2⟩ := mem_pairs p hpp
  obtain ⟨b1, hb1, hi⟩ := List.mem_flatten.mp ((hf _ h1).mem_iff.mpr hi)
  obtain ⟨b2, hb2, hj⟩ := List.mem_flatten.mp ((hf _ h2).mem_iff.mpr hj)
  exact pairwise_iff_pairs.mp (List.pairwise_flatMap.mp (bIdx_lt_bIdx hnd)).2 p hpp b1 hb1 b2 hb2 i hi j hj

theorem bIdx_flatMap_offset (comps : List (List Nat)) (hnd : (comps.flatMap f).flatten.Nodup)
    (hf : ∀ c ∈ comps, (f c).flatten.Perm c) :
    ∀ g ∈ comps, ∃ off : Nat, ∀ i ∈ g, bIdx (comps.flatMap f) i = bIdx (f g) i + off := by
  intro g hg
  obtain ⟨pre, post, rfl⟩ := List.append_of_mem hg
  rw [List.flatMap_append, List.flatMap_cons] at hnd ⊢
  refine ⟨(pre.flatMap f).length, fun i hi => ?_⟩
  have hi := (hf g hg).mem_iff.mpr hi
  have hi' : i ∈ (f g ++ post.flatMap f).flatten := List.flatten_append ▸ List.mem_append_left _ hi
  rw [bIdx_append_right (fun h => (List.nodup_append.mp (List.flatten_append ▸ hnd)).2.2 i h i hi' rfl) hi',
    bIdx_append_left hi]

end flatMap

end Compose
end Corankco
