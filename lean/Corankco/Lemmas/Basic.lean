import Corankco.Model.Basic
import Corankco.Lemmas.List
/-
  Lemmas about Model/Basic.lean: the constraints of `Scheme.Valid` by name; `isum`, the integer sum every score is
  written with (order, exchange of two sums, regrouping by the fibres of a classifier `isum_fibres`); `pairs` and the
  sums over pairs (`isum_pairs_perm`, `isum_pairs_range`, `isum_square`); `dedup`, `univOf`; `bucketIdx`, which is
  `findIdx?` of membership (`bucketIdx_eq_findIdx?`), and its total form `bIdx`, defined here.
-/
namespace Corankco

/-! ### `Scheme.Valid` -/

namespace Scheme.Valid
variable {S : Scheme} (h : S.Valid)
include h

theorem b0 : S.b0 = 0 := h.2.2.2.2.2.2.2.2.2.2.2.2.1
theorem b1_pos : 0 < S.b1 := h.2.2.2.2.2.2.2.2.2.2.2.2.2.1
theorem b34 : S.b3 ≤ S.b4 := h.2.2.2.2.2.2.2.2.2.2.2.2.2.2.1
theorem t01 : S.t0 = S.t1 := h.2.2.2.2.2.2.2.2.2.2.2.2.2.2.2.1
theorem t2 : S.t2 = 0 := h.2.2.2.2.2.2.2.2.2.2.2.2.2.2.2.2.1
theorem t34 : S.t3 = S.t4 := h.2.2.2.2.2.2.2.2.2.2.2.2.2.2.2.2.2

end Scheme.Valid

/-! ### `isum` -/

@[simp] theorem isum_nil : isum [] = 0 := rfl
@[simp] theorem isum_cons (x : Int) (xs : List Int) : isum (x :: xs) = x + isum xs := rfl

theorem isum_append (l₁ l₂ : List Int) : isum (l₁ ++ l₂) = isum l₁ + isum l₂ := by
  induction l₁ with
  | nil => exact (Int.zero_add _).symm
  | cons x xs ih => rw [List.cons_append, isum_cons, isum_cons, ih, Int.add_assoc]

theorem isum_perm {l₁ l₂ : List Int} (h : l₁.Perm l₂) : isum l₁ = isum l₂ := by
  induction h with
  | nil => rfl
  | cons x _ ih => rw [isum_cons, isum_cons, ih]
  | swap x y l => exact Int.add_left_comm ..
  | trans _ _ ih₁ ih₂ => exact ih₁.trans ih₂

theorem isum_map_perm {α : Type} (f : α → Int) {l₁ l₂ : List α} (h : l₁.Perm l₂) :
    isum (l₁.map f) = isum (l₂.map f) :=
  isum_perm (h.map f)

theorem isum_map_congr {α : Type} {f g : α → Int} {l : List α} (h : ∀ a ∈ l, f a = g a) :
    isum (l.map f) = isum (l.map g) := by
  rw [List.map_congr_left h]

theorem isum_map_le {α : Type} {f g : α → Int} {l : List α} (h : ∀ a ∈ l, f a ≤ g a) :
    isum (l.map f) ≤ isum (l.map g) := by
  induction l with
  | nil => exact Int.le_refl _
  | cons x xs ih => exact Int.add_le_add (h x List.mem_cons_self) (ih fun a ha => h a (List.mem_cons_of_mem x ha))

theorem isum_map_eq_of_le {α : Type} {f g : α → Int} {l : List α} (h : ∀ a ∈ l, f a ≤ g a)
    (hs : isum (l.map g) ≤ isum (l.map f)) : ∀ a ∈ l, f a = g a := by
  induction l with
  | nil => nofun
  | cons x xs ih =>
    -- both `f x ≤ g x` and `isum (xs.map f) ≤ isum (xs.map g)` are tight
    have hs : g x + isum (xs.map g) ≤ f x + isum (xs.map f) := hs
    have h1 := h x List.mem_cons_self
    have h2 := isum_map_le (f := f) (g := g) (fun a ha => h a (List.mem_cons_of_mem x ha))
    have h3 := ih (fun a ha => h a (List.mem_cons_of_mem x ha))
      (Int.le_of_add_le_add_left (Int.le_trans (Int.add_le_add_right h1 _) hs))
    intro a ha
    rcases List.mem_cons.mp ha with rfl | ha
    · exact Int.le_antisymm h1 (Int.le_of_add_le_add_right (Int.le_trans hs (Int.add_le_add_left h2 _)))
    · exact h3 a ha

theorem isum_map_map {α β : Type} {ρ : α → β} {g : β → Int} {g' : α → Int} (h : ∀ a, g (ρ a) = g' a)
    (l : List α) : isum ((l.map ρ).map g) = isum (l.map g') := by
  rw [List.map_map]
  exact isum_map_congr fun a _ => h a

theorem isum_map_zero {α : Type} (l : List α) : isum (l.map fun _ => (0 : Int)) = 0 := by
  induction l with
  | nil => rfl
  | cons x xs ih => simp [ih]

theorem isum_map_add {α : Type} (f g : α → Int) (l : List α) :
    isum (l.map fun a => f a + g a) = isum (l.map f) + isum (l.map g) := by
  induction l with
  | nil => rfl
  | cons x xs ih => simp +arith only [List.map_cons, isum_cons, ih]

theorem isum_map_sub {α : Type} (f g : α → Int) (l : List α) :
    isum (l.map fun a => f a - g a) = isum (l.map f) - isum (l.map g) := by
  induction l with
  | nil => rfl
  | cons x xs ih => simp only [List.map_cons, isum_cons, ih]; simp +arith only

theorem isum_map_mul {α : Type} (k : Int) (f : α → Int) (l : List α) :
    isum (l.map fun a => k * f a) = k * isum (l.map f) := by
  induction l with
  | nil => simp
  | cons a as ih => simp only [List.map_cons, isum, ih, Int.mul_add]

theorem isum_map_replicate {α : Type} (f : α → Int) (m : Nat) (a : α) :
    isum ((List.replicate m a).map f) = m * f a := by
  induction m with
  | zero => exact (Int.zero_mul _).symm
  | succ m ih =>
    rw [List.replicate_succ, List.map_cons, isum_cons, ih, Int.natCast_succ, Int.add_mul, Int.one_mul, Int.add_comm]

theorem natCast_sum {α : Type} (g : α → Nat) (l : List α) :
    ((l.map g).sum : Int) = isum (l.map fun a => (g a : Int)) := by
  induction l with
  | nil => rfl
  | cons a l ih => rw [List.map_cons, List.sum_cons, Int.natCast_add, ih, List.map_cons, isum_cons]

theorem isum_flatMap {α β : Type} (l : List α) (f : α → List β) (g : β → Int) :
    isum ((l.flatMap f).map g) = isum (l.map fun a => isum ((f a).map g)) := by
  induction l with
  | nil => rfl
  | cons x xs ih => simp [List.flatMap_cons, isum_append, ih]

theorem isum_map_isum_comm {α β : Type} (f : α → β → Int) (l₁ : List α) (l₂ : List β) :
    isum (l₁.map fun a => isum (l₂.map fun b => f a b)) =
      isum (l₂.map fun b => isum (l₁.map fun a => f a b)) := by
  induction l₁ with
  | nil => simp [isum_map_zero]
  | cons x xs ih => simp [ih, isum_map_add]

theorem isum_map_ite3 {α : Type} (p q : Prop) [Decidable p] [Decidable q] (f g h : α → Int) (l : List α) :
    isum (l.map fun a => if p then f a else if q then g a else h a) =
      if p then isum (l.map f) else if q then isum (l.map g) else isum (l.map h) := by
  by_cases hp : p <;> by_cases hq : q <;> simp [hp, hq]

theorem isum_delta (w : Nat → Int) (o : Option Nat) (n : Nat) (h : ∀ k, o = some k → k < n) :
    isum ((List.range n).map fun k => ((if o == some k then 1 else 0 : Nat) : Int) * w k) = o.elim 0 w := by
  cases o with
  | none => exact (isum_map_congr fun k _ => Int.zero_mul _).trans (isum_map_zero _)
  | some j =>
    -- the term of `j` taken out of `range n`, the others vanish
    rw [isum_map_perm _ (perm_cons_filter_ne List.nodup_range (List.mem_range.mpr (h j rfl))), List.map_cons, isum_cons,
      isum_map_congr (g := fun _ => 0) fun k hk => by simp [Ne.symm (of_decide_eq_true (List.mem_filter.mp hk).2)],
      isum_map_zero]
    simp

theorem isum_fibres {α : Type} (w : Nat → Int) (f : α → Option Nat) (n : Nat) (l : List α)
    (h : ∀ a ∈ l, ∀ k, f a = some k → k < n) :
    isum (l.map fun a => (f a).elim 0 w) =
      isum ((List.range n).map fun k => (l.countP (fun a => f a == some k) : Nat) * w k) := by
  induction l with
  | nil => simp [isum_map_zero]
  | cons a l ih =>
    simp only [List.map_cons, isum_cons, List.countP_cons, Int.natCast_add, Int.add_mul, isum_map_add,
      ih (fun b hb => h b (List.mem_cons_of_mem a hb)), isum_delta w (f a) n (h a (List.mem_cons_self ..))]
    simp +arith only

/-! ### `pairs` -/

@[simp] theorem pairs_nil {α : Type} : pairs ([] : List α) = [] := rfl
@[simp] theorem pairs_cons {α : Type} (x : α) (xs : List α) :
    pairs (x :: xs) = xs.map (fun y => (x, y)) ++ pairs xs := rfl

theorem pairs_map {α β : Type} (f : α → β) (l : List α) :
    pairs (l.map f) = (pairs l).map (fun p => (f p.1, f p.2)) := by
  induction l with
  | nil => rfl
  | cons x xs ih => simp [ih]

theorem mem_pairs_of_pairwise {α : Type} {R : α → α → Prop} {l : List α} (h : l.Pairwise R) :
    ∀ p ∈ pairs l, p.1 ∈ l ∧ p.2 ∈ l ∧ R p.1 p.2 := by
  induction l with
  | nil => intro p hp; simp at hp
  | cons x xs ih =>
    rw [List.pairwise_cons] at h
    intro p hp
    simp only [pairs_cons, List.mem_append, List.mem_map] at hp
    rcases hp with ⟨y, hy, rfl⟩ | hp
    · exact ⟨by simp, by simp [hy], h.1 y hy⟩
    · obtain ⟨h1, h2, h3⟩ := ih h.2 p hp
      exact ⟨by simp [h1], by simp [h2], h3⟩

theorem pairwise_iff_pairs {α : Type} {R : α → α → Prop} {l : List α} :
    l.Pairwise R ↔ ∀ p ∈ pairs l, R p.1 p.2 := by
  refine ⟨fun h p hp => (mem_pairs_of_pairwise h p hp).2.2, fun h => ?_⟩
  induction l with
  | nil => simp
  | cons x xs ih =>
    rw [List.pairwise_cons]
    exact ⟨fun y hy => h (x, y) (List.mem_append_left _ (List.mem_map_of_mem hy)),
      ih fun p hp => h p (List.mem_append_right _ hp)⟩

theorem mem_pairs {α : Type} {l : List α} : ∀ p ∈ pairs l, p.1 ∈ l ∧ p.2 ∈ l := by
  intro p hp
  have h : l.Pairwise (fun _ _ => True) := List.pairwise_of_forall fun _ _ => trivial
  obtain ⟨h1, h2, _⟩ := mem_pairs_of_pairwise h p hp
  exact ⟨h1, h2⟩

theorem mem_pairs_range {n : Nat} : ∀ p ∈ pairs (List.range n), p.1 < p.2 ∧ p.2 < n := by
  intro p hp
  obtain ⟨_, h2, h3⟩ := mem_pairs_of_pairwise (List.pairwise_lt_range (n := n)) p hp
  exact ⟨h3, by simpa using h2⟩

theorem isum_pairs_perm {α : Type} (f : α → α → Int) {l₁ l₂ : List α} (h : l₁.Perm l₂)
    (hf : ∀ x ∈ l₁, ∀ y ∈ l₁, f x y = f y x) :
    isum ((pairs l₁).map fun p => f p.1 p.2) = isum ((pairs l₂).map fun p => f p.1 p.2) := by
  induction h with
  | nil => rfl
  | cons x hp ih =>
    simp only [pairs_cons, List.map_append, List.map_map, isum_append, Function.comp_def,
      ih fun a ha b hb => hf a (List.mem_cons_of_mem x ha) b (List.mem_cons_of_mem x hb),
      isum_map_perm (fun y => f x y) hp]
  | swap x y l =>
    simp only [pairs_cons, List.map_append, List.map_map, isum_append, List.map_cons, isum_cons,
      Function.comp_def, hf y List.mem_cons_self x (List.mem_cons_of_mem _ List.mem_cons_self)]
    simp +arith only
  | trans h₁ _ ih₁ ih₂ =>
    exact (ih₁ hf).trans (ih₂ fun a ha b hb => hf a (h₁.mem_iff.mpr ha) b (h₁.mem_iff.mpr hb))

theorem isum_pairs_range {α : Type} (l : List α) (F : Nat → Nat → Int) (G : α → α → Int)
    (h : ∀ i j (hi : i < l.length) (hj : j < l.length), i < j → F i j = G l[i] l[j]) :
    isum ((pairs (List.range l.length)).map fun p => F p.1 p.2) =
      isum ((pairs l).map fun p => G p.1 p.2) := by
  -- the proof reads `l` through `getD`, with a member of `l` as default
  rcases l with _ | ⟨d, t⟩
  · rfl
  generalize d :: t = l at h ⊢
  have e := pairs_map (fun i => l.getD i d) (List.range l.length)
  rw [map_getD_range] at e
  rw [e, List.map_map]
  apply isum_map_congr
  intro p hp
  obtain ⟨h1, h2⟩ := mem_pairs_range p hp
  have hi : p.1 < l.length := Nat.lt_trans h1 h2
  simp only [Function.comp_def, getD_of_lt hi, getD_of_lt h2]
  exact h p.1 p.2 hi h2 h1

/-! ### `dedup`, `univOf` -/

theorem mem_dedup {x : Nat} {l : List Nat} : x ∈ dedup l ↔ x ∈ l := by
  induction l with
  | nil => simp [dedup]
  | cons y ys ih =>
    simp only [dedup, List.mem_cons, List.mem_filter, ih]
    by_cases h : x = y <;> simp [h]

theorem nodup_dedup (l : List Nat) : (dedup l).Nodup := by
  induction l with
  | nil => simp [dedup]
  | cons y ys ih =>
    simp only [dedup, List.nodup_cons]
    refine ⟨?_, List.Nodup.sublist List.filter_sublist ih⟩
    simp

theorem dedup_of_nodup {l : List Nat} (h : l.Nodup) : dedup l = l := by
  induction l with
  | nil => rfl
  | cons a l ih =>
    rw [List.nodup_cons] at h
    rw [dedup, ih h.2]
    exact congrArg _ (List.filter_eq_self.mpr fun x hx => decide_eq_true fun e => h.1 (e ▸ hx))

theorem dedup_concat (l : List Nat) (k : Nat) : dedup (l ++ [k]) = if k ∈ l then dedup l else dedup l ++ [k] := by
  induction l with
  | nil => rfl
  | cons a l ih =>
    rw [List.cons_append, dedup, ih, dedup, apply_ite (List.filter _), apply_ite (a :: ·), List.filter_append]
    by_cases h : k = a
    · subst h
      simp
    · simp [h]

theorem nodup_univOf (D : Dataset) : (univOf D).Nodup := nodup_dedup _

theorem mem_univOf (D : Dataset) (x : Elem) : x ∈ univOf D ↔ ∃ r ∈ D, x ∈ r.flatten := by
  rw [univOf, mem_dedup, mem_flatten_flatten]

theorem mem_univOf_of_mem {D : Dataset} {r : Ranking} (hr : r ∈ D) {x : Elem} (hx : x ∈ r.flatten) :
    x ∈ univOf D :=
  (mem_univOf D x).mpr ⟨r, hr, hx⟩

/-! ### `bucketIdx` -/

theorem bucketIdx_eq_findIdx? (r : Ranking) (x : Elem) : bucketIdx r x = r.findIdx? (x ∈ ·) := by
  induction r with
  | nil => rfl
  | cons b bs ih => simp only [bucketIdx, List.findIdx?_cons, ih, decide_eq_true_eq]

theorem bucketIdx_eq_none {r : Ranking} {x : Elem} : bucketIdx r x = none ↔ x ∉ r.flatten := by
  simp only [bucketIdx_eq_findIdx?, List.findIdx?_eq_none_iff, List.mem_flatten, decide_eq_false_iff_not, not_exists,
    not_and]

theorem mem_of_bucketIdx_eq_some {r : Ranking} {x : Elem} {i : Nat} (h : bucketIdx r x = some i) :
    x ∈ r.flatten :=
  Decidable.of_not_not fun hn => by rw [bucketIdx_eq_none.mpr hn] at h; cases h

theorem exists_bucketIdx_eq_some {r : Ranking} {x : Elem} (h : x ∈ r.flatten) : ∃ i, bucketIdx r x = some i := by
  cases e : bucketIdx r x with
  | none => exact absurd h (bucketIdx_eq_none.mp e)
  | some i => exact ⟨i, rfl⟩

theorem mem_getElem_of_bucketIdx_eq_some {r : Ranking} {x : Elem} {i : Nat} (h : bucketIdx r x = some i) :
    ∃ hi : i < r.length, x ∈ r[i] := by
  obtain ⟨hi, hx, _⟩ := List.findIdx?_eq_some_iff_getElem.mp (bucketIdx_eq_findIdx? r x ▸ h)
  exact ⟨hi, of_decide_eq_true hx⟩

theorem bucketIdx_lt_length {r : Ranking} {x : Elem} {i : Nat} (h : bucketIdx r x = some i) : i < r.length :=
  (mem_getElem_of_bucketIdx_eq_some h).1

theorem bucketIdx_of_mem {c : Ranking} (hn : c.flatten.Nodup) {k : Nat} (hk : k < c.length) {x : Elem}
    (hx : x ∈ c[k]) : bucketIdx c x = some k := by
  have hpw := List.pairwise_iff_getElem.mp (List.pairwise_flatten.mp hn).2
  rw [bucketIdx_eq_findIdx?, List.findIdx?_eq_some_iff_getElem]
  exact ⟨hk, decide_eq_true hx, fun j hj hxj => hpw j k (Nat.lt_trans hj hk) hk hj x (of_decide_eq_true hxj) x hx rfl⟩

theorem bucketIdx_append (A B : Ranking) (x : Elem) :
    bucketIdx (A ++ B) x = (bucketIdx A x).or ((bucketIdx B x).map (· + A.length)) := by
  simp only [bucketIdx_eq_findIdx?, List.findIdx?_append]

theorem bucketIdx_append_left {A B : Ranking} {x : Elem} (h : x ∈ A.flatten) :
    bucketIdx (A ++ B) x = bucketIdx A x := by
  obtain ⟨i, hi⟩ := exists_bucketIdx_eq_some h
  rw [bucketIdx_append, hi, Option.some_or]

theorem bucketIdx_append_right {A B : Ranking} {x : Elem} (h : x ∉ A.flatten) :
    bucketIdx (A ++ B) x = (bucketIdx B x).map (· + A.length) := by
  rw [bucketIdx_append, bucketIdx_eq_none.mpr h, Option.none_or]

theorem bucketIdx_map_inj (g : Nat → Nat) (r : Ranking) (x : Nat)
    (hinj : ∀ y ∈ r.flatten, g y = g x → y = x) :
    bucketIdx (r.map (List.map g)) (g x) = bucketIdx r x := by
  induction r with
  | nil => rfl
  | cons b bs ih =>
    have hm : g x ∈ b.map g ↔ x ∈ b := by
      refine ⟨fun h => ?_, List.mem_map_of_mem⟩
      obtain ⟨y, hy, e⟩ := List.mem_map.mp h
      exact hinj y (List.mem_append_left _ hy) e ▸ hy
    simp only [List.map_cons, bucketIdx, ih fun y hy => hinj y (List.mem_append_right _ hy), hm]

/-! ### `bIdx` -/

/-- Index of the bucket of `x`, 0 if unranked: `cid` in `costByRanking` (the consensus bucket id) and the key that
    `cmpIn` compares. -/
def bIdx (r : Ranking) (x : Elem) : Nat := (bucketIdx r x).getD 0

theorem bucketIdx_eq_bIdx {c : Ranking} {x : Elem} (h : x ∈ c.flatten) : bucketIdx c x = some (bIdx c x) := by
  obtain ⟨i, hi⟩ := exists_bucketIdx_eq_some h
  simp [bIdx, hi]

theorem bIdx_lt {c : Ranking} {x : Elem} (h : x ∈ c.flatten) : bIdx c x < c.length :=
  bucketIdx_lt_length (bucketIdx_eq_bIdx h)

theorem bIdx_of_mem {c : Ranking} (hn : c.flatten.Nodup) {k : Nat} (hk : k < c.length) {x : Elem}
    (hx : x ∈ c[k]) : bIdx c x = k := by
  rw [bIdx, bucketIdx_of_mem hn hk hx]
  rfl

theorem bIdx_lt_bIdx {c : Ranking} (hnd : c.flatten.Nodup) :
    c.Pairwise fun g1 g2 => ∀ i ∈ g1, ∀ j ∈ g2, bIdx c i < bIdx c j :=
  List.pairwise_iff_getElem.mpr fun a b ha hb hab i hi j hj => by
    rwa [bIdx_of_mem hnd ha hi, bIdx_of_mem hnd hb hj]

theorem bIdx_eq_of_mem {c : Ranking} (hnd : c.flatten.Nodup) {b : Bucket} (hb : b ∈ c)
    {i j : Elem} (hi : i ∈ b) (hj : j ∈ b) : bIdx c i = bIdx c j := by
  obtain ⟨a, ha, rfl⟩ := List.getElem_of_mem hb
  rw [bIdx_of_mem hnd ha hi, bIdx_of_mem hnd ha hj]

theorem bIdx_cons_of_mem {b : Bucket} {x : Elem} (h : x ∈ b) (r : Ranking) : bIdx (b :: r) x = 0 := by
  simp [bIdx, bucketIdx, h]

theorem bIdx_cons_of_not_mem {b : Bucket} {r : Ranking} {x : Elem} (h : x ∉ b) (hx : x ∈ r.flatten) :
    bIdx (b :: r) x = bIdx r x + 1 := by
  rw [bIdx, bucketIdx, if_neg h, bucketIdx_eq_bIdx hx]
  rfl

theorem bIdx_cons_cons_ne {x u : Elem} (h : x ≠ u) (b : Bucket) (r : Ranking) :
    bIdx ((u :: b) :: r) x = bIdx (b :: r) x := by
  simp only [bIdx, bucketIdx, List.mem_cons, h, false_or]

theorem bIdx_append_left {A B : Ranking} {x : Elem} (h : x ∈ A.flatten) : bIdx (A ++ B) x = bIdx A x := by
  rw [bIdx, bucketIdx_append_left h]
  rfl

theorem bIdx_append_right {A B : Ranking} {x : Elem} (h : x ∉ A.flatten) (h' : x ∈ B.flatten) :
    bIdx (A ++ B) x = bIdx B x + A.length := by
  rw [bIdx, bucketIdx_append_right h, bucketIdx_eq_bIdx h']
  rfl

/-! ### `pairs`, continued -/

theorem pairs_filter {α : Type} (q : α → Bool) (l : List α) :
    pairs (l.filter q) = (pairs l).filter (fun p => q p.1 && q p.2) := by
  induction l with
  | nil => rfl
  | cons x xs ih =>
    simp only [pairs_cons, List.filter_cons, List.filter_append, List.filter_map, Function.comp_def]
    cases hq : q x
    · simp [ih]
    · simp [ih]

theorem isum_square {α : Type} (F : α → α → Int) (l : List α) :
    isum (l.map fun i => isum (l.map (F i))) =
      isum (l.map fun i => F i i) + isum ((pairs l).map fun p => F p.1 p.2 + F p.2 p.1) := by
  induction l with
  | nil => rfl
  | cons x xs ih =>
    simp only [List.map_cons, isum_cons, pairs_cons, List.map_append, List.map_map, isum_append, Function.comp_def,
      isum_map_add, ih]
    simp +arith only

end Corankco
