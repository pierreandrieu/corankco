import Corankco.Lemmas.SubTable
import Corankco.Lemmas.Rows
import Corankco.Props.C06
/-
  C06 at the level of a dataset.  The sub-solvers of ParCons and of the optimised exact algorithm work on the PROJECTED
  dataset `projectKeepAll D keep`, whose ids are re-numbered by first appearance: its cost table is the restriction of
  the table of `D` through the two numberings, and a global optimum of it is optimal for the component in the table of
  `D` (`C06_sub_optimal`).  End to end, with an exact sub-solver given at the level of ELEMENTS and read back with the
  ids of `D`: `C06_parcons_dataset`; the exhaustive solver meets its hypothesis on every dataset (`C06_parcons_brute`).
-/
namespace Corankco
open Model Spec

/-- the universe of the projected dataset is the kept set, when every kept element occurs in `D` -/
theorem C06_sub_universe (D : Dataset) (keep : List Elem) (hk : ∀ x ∈ keep, x ∈ univOf D) :
    ∀ x, x ∈ univOf (projectKeepAll D keep) ↔ x ∈ keep :=
  fun x => (SubTable.mem_univOf_project D keep x).trans ⟨And.left, fun h => ⟨h, hk x h⟩⟩

set_option linter.unusedVariables false in
/-- the cost table of the projected dataset is the restriction of the table of `D` through the two id numberings: for
    elements with ids `i`, `j` in `D` and `i'`, `j'` in the projected dataset, entry `(i', j')` of the sub-table is
    entry `(i, j)` of the table (`hk`, `hx`, `hy` are not used: by `hi'`, `hj'` both elements are kept and occur in `D`) -/
theorem C06_subtable (S : Scheme) (hS : S.Valid) (D : Dataset) (keep : List Elem) (hk : ∀ x ∈ keep, x ∈ univOf D)
    (x y : Elem) (hx : x ∈ keep) (hy : y ∈ keep) (i j i' j' : Nat)
    (hi : indexOf? x (univOf D) = some i) (hj : indexOf? y (univOf D) = some j)
    (hi' : indexOf? x (univOf (projectKeepAll D keep)) = some i')
    (hj' : indexOf? y (univOf (projectKeepAll D keep)) = some j') :
    (costMatrix S (getPositions (projectKeepAll D keep))).get i' j' = (costMatrix S (getPositions D)).get i j := by
  obtain ⟨li, ei⟩ := List.getElem?_eq_some_iff.mp (SubTable.indexOf?_getElem? hi')
  obtain ⟨lj, ej⟩ := List.getElem?_eq_some_iff.mp (SubTable.indexOf?_getElem? hj')
  rw [SubTable.subtable_get S hS.t01 hS.t34 D keep i' j' li lj, ei, ej, SubTable.idx, SubTable.idx, hi, hj]
  rfl

set_option linter.unusedVariables false in
/-- a ranking `c` over ELEMENTS that is a global optimum of the projected dataset is optimal for the component in the
    table of `D` (the hypothesis `hopt` of `C06_flag_truthful`), each read with its own id numbering (`hc` is not used:
    the transfer holds for any `c`) -/
theorem C06_sub_optimal (S : Scheme) (hS : S.Valid) (D : Dataset) (keep : List Elem) (hkn : keep.Nodup)
    (hk : ∀ x ∈ keep, x ∈ univOf D) (c : Ranking) (hc : c.flatten.Perm keep)
    (hopt : Optimal (costMatrix S (getPositions (projectKeepAll D keep))) (univOf (projectKeepAll D keep)).length
              (vecOf (univOf (projectKeepAll D keep)) c)) :
    OptimalOn (costMatrix S (getPositions D)) (keep.filterMap fun x => indexOf? x (univOf D))
      (vecOf (univOf D) c) := by
  intro w _
  -- a key vector `w` on the big id space restricts to `w'[i'] := w[i]` on the small one, with
  -- `scoreVec t' w' = scoreIds t ids w`; the restriction of `vecOf (univOf D) c` is `vecOf (univOf D') c`
  rw [SubTable.filterMap_indexOf? _ _ hk, ← SubTable.scoreVec_project S hS.t01 hS.t34 D keep hkn hk,
    ← SubTable.scoreVec_project S hS.t01 hS.t34 D keep hkn hk,
    SubTable.map_getD_idx_vecOf _ _ fun x hx => ((SubTable.mem_univOf_project D keep x).mp hx).2]
  exact hopt.2 _ (List.length_map _)

/-- The ranking `[[3]]` loses all its elements and is kept as an empty ranking; in `D₂` the two numberings list the
    kept elements in opposite orders. -/
example :
    let S : Scheme := ⟨0, 2, 1, 1, 3, 1, 2, 2, 0, 3, 3, 1⟩
    let D : Dataset := [[[0, 1], [2]], [[2], [0]], [[3]]]
    let D₂ : Dataset := [[[2], [0, 1]], [[0], [2]], [[3]]]
    S.Valid ∧ univOf D = [0, 1, 2, 3] ∧ projectKeepAll D [0, 2] = [[[0], [2]], [[2], [0]], []] ∧
      univOf (projectKeepAll D [0, 2]) = [0, 2] ∧
      ([0, 2].filterMap fun x => indexOf? x (univOf D)) = [0, 2] ∧
      (costMatrix S (getPositions (projectKeepAll D [0, 2]))).get 0 1 = (costMatrix S (getPositions D)).get 0 2 ∧
      univOf D₂ = [2, 0, 1, 3] ∧ univOf (projectKeepAll D₂ [0, 2]) = [2, 0] ∧
      ([0, 2].filterMap fun x => indexOf? x (univOf D₂)) = [1, 0] ∧
      vecOf (univOf D₂) [[0], [2]] = [1, 0, -1, -1] ∧ vecOf (univOf (projectKeepAll D₂ [0, 2])) [[0], [2]] = [1, 0] := by
  decide +kernel

/-! ### end to end -/

namespace C06f

/-- the id-level sub-solver ParCons calls, obtained from an element-level solver: translate the ids of the component
    to elements, solve, translate the returned ranking back to ids (`SubTable.idx U x` = position of `x` in `U`) -/
def liftExact (U : List Elem) (exactE : List Elem → Ranking) (c : List Nat) : List (List Nat) :=
  (exactE (elemsOf U c)).map fun b => b.map (SubTable.idx U)

theorem lift_solves (U : List Elem) (hU : U.Nodup) (g : List Nat) (hg : ∀ i ∈ g, i < U.length) (cE : Ranking)
    (hne : ∀ b ∈ cE, b ≠ []) (hperm : cE.flatten.Perm (elemsOf U g)) :
    SolvesComp g (cE.map fun b => b.map (SubTable.idx U)) := by
  refine ⟨?_, ?_⟩
  · intro b hb
    obtain ⟨b0, hb0, rfl⟩ := List.mem_map.mp hb
    exact fun e => hne b0 hb0 (List.map_eq_nil_iff.mp e)
  · rw [← List.map_flatten]
    have := hperm.map (SubTable.idx U)
    rwa [SubTable.map_idx_elemsOf hU hg] at this

theorem lift_key (U : List Elem) (hU : U.Nodup) (g : List Nat) (hg : ∀ i ∈ g, i < U.length) (cE : Ranking)
    (hne : ∀ b ∈ cE, b ≠ []) (hperm : cE.flatten.Perm (elemsOf U g)) (i : Nat) (hi : i ∈ g) :
    ((vecOfIds U.length (cE.map fun b => b.map (SubTable.idx U))).map fun k => Int.ofNat k).getD i 0 =
      (vecOf U cE).getD i 0 := by
  have hlt := hg i hi
  have hsub : ∀ y ∈ cE.flatten, y ∈ U := fun y hy =>
    SubTable.elemsOf_subset hg y (hperm.mem_iff.mp hy)
  rw [Compose.getD_map_vecOfIds hlt,
    SubTable.bIdx_map_idx hU cE hsub hlt ((lift_solves U hU g hg cE hne hperm).2.mem_iff.mpr hi), vecOf,
    getD_map_of_lt hlt, getD_of_lt hlt]

theorem lift_optimalOn (t : Table) (U : List Elem) (hU : U.Nodup) (g : List Nat) (hg : ∀ i ∈ g, i < U.length)
    (cE : Ranking) (hne : ∀ b ∈ cE, b ≠ []) (hperm : cE.flatten.Perm (elemsOf U g))
    (hO : OptimalOn t g (vecOf U cE)) :
    OptimalOn t g ((vecOfIds U.length (cE.map fun b => b.map (SubTable.idx U))).map fun k => Int.ofNat k) := by
  refine optimalOn_congr t g _ _ (by simp [vecOfIds, vecOf]) (fun i hi j hj => ?_) hO
  rw [lift_key U hU g hg cE hne hperm i hi, lift_key U hU g hg cE hne hperm j hj]

end C06f

open C06f in
/-- C06 end to end on a dataset: IF the element-level exact sub-solver `exactE` returns, on every component that cannot
    be all tied, a ranking of exactly the component's elements that is a global optimum of the PROJECTED dataset, then a
    result that ParCons marks as necessarily optimal is a global optimum of `D` (components in topological order:
    igraph's contract).  Nothing is assumed about `exactE` elsewhere nor about `aux`: they are not called there. -/
theorem C06_parcons_dataset (S : Scheme) (hS : S.Valid) (D : Dataset) (comps : List (List Nat))
    (h : isTopoSCC (costMatrix S (getPositions D)) (univOf D).length comps = true)
    (bound : Nat) (exactE : List Elem → Ranking) (aux : List Nat → List (List Nat))
    (hexact : ∀ c ∈ comps, canBeAllTied c (costMatrix S (getPositions D)) = false →
      (∀ b ∈ exactE (elemsOf (univOf D) c), b ≠ []) ∧
      (exactE (elemsOf (univOf D) c)).flatten.Perm (elemsOf (univOf D) c) ∧
      Optimal (costMatrix S (getPositions (projectKeepAll D (elemsOf (univOf D) c))))
        (univOf (projectKeepAll D (elemsOf (univOf D) c))).length
        (vecOf (univOf (projectKeepAll D (elemsOf (univOf D) c))) (exactE (elemsOf (univOf D) c))))
    (hflag : (parCons (costMatrix S (getPositions D)) comps bound
        (liftExact (univOf D) exactE) aux).optimal = true) :
    Optimal (costMatrix S (getPositions D)) (univOf D).length
      ((vecOfIds (univOf D).length (parCons (costMatrix S (getPositions D)) comps bound
        (liftExact (univOf D) exactE) aux).consensus).map fun k => Int.ofNat k) := by
  have hU := nodup_univOf D
  have hp := L4.isTopoSCC_partition h
  have hlt : ∀ c ∈ comps, ∀ i ∈ c, i < (univOf D).length := fun c hc i hi => L4.partition_lt hp hc hi
  apply C06d.parCons_optimal _ _ (mirror_costMatrix S D) comps h bound _ aux _ _ hflag
  · intro c hc hct
    obtain ⟨e1, e2, _⟩ := hexact c hc hct
    exact lift_solves (univOf D) hU c (hlt c hc) _ e1 e2
  · intro c hc hct
    obtain ⟨e1, e2, e3⟩ := hexact c hc hct
    have hk := SubTable.elemsOf_subset (hlt c hc)
    have hO := C06_sub_optimal S hS D (elemsOf (univOf D) c)
      (SubTable.nodup_elemsOf hU (hlt c hc) (L4.partition_nodup hp hc)) hk _ e2 e3
    rw [SubTable.filterMap_indexOf? _ _ hk, SubTable.map_idx_elemsOf hU (hlt c hc)] at hO
    exact lift_optimalOn _ (univOf D) hU c (hlt c hc) _ e1 e2 hO

/-! ### non-vacuity: the exhaustive solver -/

namespace C06f

/-- the exhaustive exact solver at the level of elements: project the dataset on the kept elements, enumerate every
    ranking with ties of the projected dataset, decode the first optimum with the ids of the projected dataset -/
def bruteE (S : Scheme) (D : Dataset) (keep : List Elem) : Ranking :=
  decodeVec (univOf (projectKeepAll D keep))
    ((optima (costMatrix S (getPositions (projectKeepAll D keep))) (univOf (projectKeepAll D keep)).length).headD [])

theorem optima_ne_nil (t : Table) (n : Nat) : optima t n ≠ [] := by
  obtain ⟨d, hd, e⟩ := WO.optScore_attained t n
  have : d ∈ optima t n := List.mem_filter.mpr ⟨hd, by simp [e]⟩
  exact List.ne_nil_of_mem this

theorem headD_mem {α : Type} (l : List α) (d : α) (h : l ≠ []) : l.headD d ∈ l := by
  cases l with
  | nil => exact absurd rfl h
  | cons a as => simp

/-- the exhaustive solver meets the hypothesis `hexact` of `C06_parcons_dataset` -/
theorem bruteE_spec (S : Scheme) (D : Dataset) (keep : List Elem) (hkn : keep.Nodup)
    (hk : ∀ x ∈ keep, x ∈ univOf D) :
    (∀ b ∈ bruteE S D keep, b ≠ []) ∧ (bruteE S D keep).flatten.Perm keep ∧
    Optimal (costMatrix S (getPositions (projectKeepAll D keep))) (univOf (projectKeepAll D keep)).length
      (vecOf (univOf (projectKeepAll D keep)) (bruteE S D keep)) := by
  obtain ⟨hl, hdn, hopt⟩ := (WO.optima_spec _ _ _).mp (headD_mem _ [] (optima_ne_nil
    (costMatrix S (getPositions (projectKeepAll D keep))) (univOf (projectKeepAll D keep)).length))
  obtain ⟨wf, hrow⟩ := decodeVec_spec (univOf (projectKeepAll D keep)) (nodup_univOf _) _ hdn hl
  obtain ⟨h1, h2⟩ := SubTable.wellFormed_project D keep hkn hk _ wf
  refine ⟨h1, h2, ?_⟩
  rw [bruteE, vecOf_eq_rowOf wf, hrow]
  exact hopt

end C06f

open C06f in
/-- C06, non-vacuity: with the exhaustive exact sub-solver a result marked necessarily optimal is a global optimum; so
    the hypothesis `hexact` of `C06_parcons_dataset` can be met on every instance. -/
theorem C06_parcons_brute (S : Scheme) (hS : S.Valid) (D : Dataset) (comps : List (List Nat))
    (h : isTopoSCC (costMatrix S (getPositions D)) (univOf D).length comps = true)
    (bound : Nat) (aux : List Nat → List (List Nat))
    (hflag : (parCons (costMatrix S (getPositions D)) comps bound
        (liftExact (univOf D) (bruteE S D)) aux).optimal = true) :
    Optimal (costMatrix S (getPositions D)) (univOf D).length
      ((vecOfIds (univOf D).length (parCons (costMatrix S (getPositions D)) comps bound
        (liftExact (univOf D) (bruteE S D)) aux).consensus).map fun k => Int.ofNat k) := by
  apply C06_parcons_dataset S hS D comps h bound (bruteE S D) aux _ hflag
  intro c hc _
  have hp := L4.isTopoSCC_partition h
  have hlt : ∀ i ∈ c, i < (univOf D).length := fun i hi => L4.partition_lt hp hc hi
  exact bruteE_spec S D _ (SubTable.nodup_elemsOf (nodup_univOf D) hlt (L4.partition_nodup hp hc))
    (SubTable.elemsOf_subset hlt)

set_option maxRecDepth 8000 in
/-- A Condorcet cycle on the elements 0, 1, 2 followed by element 3; ids and elements differ.  The cycle is one
    component that cannot be all tied; the mark is set and the score 4 is the optimum. -/
example :
    let D : Dataset := [[[1], [0], [2], [3]], [[0], [2], [1], [3]], [[2], [1], [0], [3]]]
    let t := costMatrix unifying (getPositions D)
    let out := parCons t [[0, 1, 2], [3]] 10 (C06f.liftExact (univOf D) (C06f.bruteE unifying D)) (fun c => [c])
    unifying.Valid ∧ univOf D = [1, 0, 2, 3] ∧ isTopoSCC t 4 [[0, 1, 2], [3]] = true ∧
    canBeAllTied [0, 1, 2] t = false ∧ C06f.elemsOf (univOf D) [0, 1, 2] = [1, 0, 2] ∧
    C06f.bruteE unifying D [1, 0, 2] = [[0], [2], [1]] ∧
    out.consensus = [[1], [2], [0], [3]] ∧ out.optimal = true ∧
    scoreN t (vecOfIds 4 out.consensus) = 4 ∧ optScore t 4 = 4 := by
  intro D t out
  simp only [← and_assoc]
  -- the first nine facts by evaluation; that 4 is the optimum is `C06_parcons_brute` on this instance (evaluating
  -- `optScore` would enumerate the 75 rankings with ties of four elements, dearer than all the rest together)
  suffices h : _ from ⟨h, ((WO.optScore_spec t 4).2 _ (C06_parcons_brute unifying h.1.1.1.1.1.1.1.1 D _
    h.1.1.1.1.1.1.2 10 _ h.1.2)).symm.trans h.2⟩
  decide +kernel +revert

end Corankco
