import Corankco.Lemmas.C10
import Corankco.Props.C19
/-
  C10 — PickAPerm returns exactly the best (unified) input rankings: `C10_scan` for the scan over an abstract score
  function, `C10_holds` for the algorithm with the Kemeny score of the definition, refusal included.
-/
namespace Corankco
open Model

/-- The scan of a non-empty list returns its least score and elements of that score: a single one on request,
    otherwise all of them. -/
theorem C10_scan {α : Type} (score : α → Int) (amo : Bool) (l : List α) (hl : l ≠ []) :
    ∃ m acc, pickScan score amo l none = some (m, acc) ∧ acc ≠ [] ∧
      (∀ r ∈ acc, r ∈ l ∧ score r = m) ∧ (∀ r ∈ l, m ≤ score r) ∧
      (amo = true → acc.length = 1) ∧ (amo = false → ∀ r ∈ l, score r = m → r ∈ acc) := by
  cases l with
  | nil => exact absurd rfl hl
  | cons a rs =>
    exact C10.pickScan_best score amo rs [a] (score a) [a]
      ⟨by simp, by simp, by simp, fun _ => rfl, fun _ r hr _ => hr⟩

theorem C10.pickAPerm_ok {amo : Bool} {S : Scheme} (hS : S.Valid) {D : Dataset} (hne : D ≠ [])
    (hD : ∀ r ∈ D, r.flatten.Nodup) {out : List Ranking} {sc : Option Int}
    (h : pickAPerm amo S D = .ok (out, sc)) :
    out ≠ [] ∧ (∀ r ∈ out, r ∈ C10.inputs D) ∧ (amo = true → out.length = 1) := by
  obtain ⟨m, acc, he, hane, hmem, _, hl1, _⟩ :=
    C10_scan (Spec.kemeny S D) amo (C10.inputs D) (C10.inputs_ne_nil hne)
  rw [C10.pickAPerm_eq hS hD, he] at h
  split at h
  · cases h
    exact ⟨hane, fun r hr => (hmem r hr).1, hl1⟩
  · cases h

/-- PickAPerm refuses exactly an incomplete dataset under a scheme not equivalent to the unifying one; otherwise it
    returns (unified) input rankings of minimum Kemeny score among them and reports that score: exactly one ranking
    on request, otherwise every minimal one. -/
theorem C10_holds (amo : Bool) (S : Scheme) (hS : S.Valid) (D : Dataset) (hne : D ≠ [])
    (hD : ∀ r ∈ D, r.flatten.Nodup) :
    Spec.C10.holds amo S D
      (match pickAPerm amo S D with | .ok out => some out | .error _ => none) = true := by
  obtain ⟨m, acc, he, hane, hmem, hmin, hl1, hall⟩ :=
    C10_scan (Spec.kemeny S D) amo (C10.inputs D) (C10.inputs_ne_nil hne)
  rw [C10.pickAPerm_eq hS hD, he, isEquivalentTo, C19_equiv_spec 6 S unifying hS unifying_valid]
  unfold Spec.C10.holds
  cases isComplete D || Spec.equivSpec 6 S unifying
  · rfl
  · obtain ⟨a0, hacc0⟩ := List.exists_mem_of_ne_nil acc hane
    have hbest := foldl_min_map (hmem a0 hacc0).1 (hmem a0 hacc0).2 hmin []
    -- with `∨` read as `→`, each clause of the specification is a clause of `C10.Best`
    simp only [show (if isComplete D = true then D else unifiedRankings D) = C10.inputs D from rfl, hbest,
      ↓reduceIte, Bool.true_and, Bool.and_eq_true, Bool.or_eq_true, decide_eq_true_eq,
      List.all_eq_true, List.any_eq_true, beq_iff_eq, Bool.not_eq_true', bne_iff_ne, ne_eq, and_true,
      Decidable.or_iff_not_imp_left, Bool.not_eq_false, Bool.not_eq_true, Decidable.not_not]
    exact ⟨⟨⟨List.length_pos_iff.mpr hane, hl1⟩,
      fun r hr => ⟨⟨r, (hmem r hr).1, C10.sameRanking_refl r⟩, (hmem r hr).2⟩⟩,
      fun hf i hi hk => ⟨i, hall hf i hi hk, C10.sameRanking_refl i⟩⟩

def C10.exD2 : Dataset := [[[0], [1]], [[1], [0]]]
def C10.exD3 : Dataset := [[[0], [1]], [[1]], [[1], [0]]]
def C10.exD4 : Dataset := [[[0], [1]], [[1]]]

/-- the hypotheses of `C10_holds` are satisfiable on these instances -/
example : unifying.Valid ∧ induced.Valid ∧ (∀ r ∈ C10.exD2, r.flatten.Nodup) ∧
    (∀ r ∈ C10.exD3, r.flatten.Nodup) ∧ (∀ r ∈ C10.exD4, r.flatten.Nodup) := by decide +kernel

/-- a complete dataset whose two distinct rankings are both minimal: all requested → both returned -/
example : isComplete C10.exD2 = true ∧
    pickAPerm false unifying C10.exD2 = .ok ([[[0], [1]], [[1], [0]]], some 1) := by
  rw [C10.pickAPerm_eq unifying_valid (by decide +kernel)]; decide +kernel

/-- the same dataset: a single ranking on request -/
example : pickAPerm true unifying C10.exD2 = .ok ([[[0], [1]]], some 1) := by
  rw [C10.pickAPerm_eq unifying_valid (by decide +kernel)]; decide +kernel

/-- the spec distinguishes: both minimal rankings are demanded when all are requested, exactly one otherwise -/
example : Spec.C10.holds false unifying C10.exD2 (some ([[[0], [1]], [[1], [0]]], some 1)) = true ∧
    Spec.C10.holds false unifying C10.exD2 (some ([[[0], [1]]], some 1)) = false ∧
    Spec.C10.holds true unifying C10.exD2 (some ([[[0], [1]]], some 1)) = true ∧
    Spec.C10.holds true unifying C10.exD2 (some ([[[0], [1]], [[1], [0]]], some 1)) = false ∧
    Spec.C10.holds false unifying C10.exD2 (some ([[[0], [1]], [[1], [0]]], some 2)) = false := by decide +kernel

/-- an incomplete dataset under the unifying scheme: the rankings are unified before being scored -/
example : isComplete C10.exD3 = false ∧ unifiedRankings C10.exD3 = [[[0], [1]], [[1], [0]], [[1], [0]]] ∧
    pickAPerm false unifying C10.exD3 = .ok ([[[1], [0]], [[1], [0]]], some 1) := by
  rw [C10.pickAPerm_eq unifying_valid (by decide +kernel)]; decide +kernel

/-- a refused one: incomplete dataset, induced measure -/
example : isComplete C10.exD4 = false ∧ pickAPerm false induced C10.exD4 = .error .incompatible ∧
    Spec.C10.holds false induced C10.exD4 none = true ∧
    Spec.C10.holds false induced C10.exD4 (some ([[[0], [1]]], some 0)) = false := by
  rw [C10.pickAPerm_eq induced_valid (by decide +kernel)]; decide +kernel

-- the compiled model gives the same answers
#guard pickAPerm false unifying C10.exD2 == .ok ([[[0], [1]], [[1], [0]]], some 1)
#guard pickAPerm false unifying C10.exD3 == .ok ([[[1], [0]], [[1], [0]]], some 1)
#guard pickAPerm false induced C10.exD4 == .error .incompatible

end Corankco
