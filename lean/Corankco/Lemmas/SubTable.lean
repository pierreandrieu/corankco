import Corankco.Lemmas.Dataset
import Corankco.Lemmas.L4
import Corankco.Props.C02
/-
  The dataset projected on a set of kept elements (`projectKeepAll`) has its own id numbering.  `idx U` is the id map
  of a repetition-free universe, inverse to `U.getD · 0` (`getElem?_idx`, `idx_getD`).  Projecting leaves the status of
  every pair of kept elements unchanged (`status_projR`), so entry `(i', j')` of the projected cost table is the entry
  of the whole table at the ids the two elements have there (`subtable_get`), and a key vector over the big id space,
  read at those ids, scores on the small table what it scores on the kept ids (`scoreVec_project`).  A ranking of ids
  read as a ranking of elements (`C05Opt.readIds`) has the same bucket-id vector (`vecOf_readIds`).
  From Props/C02: `mirror_costMatrix`.
-/
namespace Corankco
open Model Spec

/-- the elements of a component given as ids of the dataset (`id ↦ (univOf D)[id]`) -/
def C06f.elemsOf (U : List Elem) (c : List Nat) : List Elem := c.map fun i => U.getD i 0

def C05Opt.readIds (U : List Elem) (r : List (List Nat)) : Ranking := r.map fun b => b.map fun i => U.getD i 0

namespace SubTable

/-! ### the id map -/

theorem indexOf?_eq_idxOf? (x : Nat) (l : List Nat) : indexOf? x l = l.idxOf? x := by
  induction l with
  | nil => rfl
  | cons y ys ih => rw [indexOf?, List.idxOf?_cons, ih]; simp only [beq_iff_eq, eq_comm (a := x)]

theorem indexOf?_getElem? {x : Nat} {l : List Nat} {i : Nat} (h : indexOf? x l = some i) : l[i]? = some x := by
  rw [indexOf?_eq_idxOf?, List.idxOf?_eq_some_iff] at h
  exact List.getElem?_eq_some_iff.mpr ⟨h.1, h.2.1⟩

theorem indexOf?_mem {x : Nat} {l : List Nat} {i : Nat} (h : indexOf? x l = some i) : x ∈ l :=
  List.mem_of_getElem? (indexOf?_getElem? h)

def idx (l : List Nat) (x : Nat) : Nat := (indexOf? x l).getD 0

theorem indexOf?_eq_idx {x : Nat} {l : List Nat} (h : x ∈ l) : indexOf? x l = some (idx l x) := by
  obtain ⟨i, hi⟩ := Option.isSome_iff_exists.mp (List.isSome_idxOf?.mpr h)
  rw [idx, indexOf?_eq_idxOf?, hi]
  rfl

theorem getElem?_idx {x : Nat} {l : List Nat} (h : x ∈ l) : l[idx l x]? = some x :=
  indexOf?_getElem? (indexOf?_eq_idx h)

theorem idx_lt {x : Nat} {l : List Nat} (h : x ∈ l) : idx l x < l.length :=
  (List.getElem?_eq_some_iff.mp (getElem?_idx h)).1

theorem getElem_idx {x : Nat} {l : List Nat} (h : x ∈ l) : l[idx l x]'(idx_lt h) = x :=
  (List.getElem?_eq_some_iff.mp (getElem?_idx h)).2

theorem filterMap_indexOf? (keep l : List Nat) (hk : ∀ x ∈ keep, x ∈ l) :
    (keep.filterMap fun x => indexOf? x l) = keep.map (idx l) := by
  induction keep with
  | nil => rfl
  | cons a as ih =>
    rw [List.filterMap_cons, indexOf?_eq_idx (hk a List.mem_cons_self), List.map_cons,
      ih fun x hx => hk x (List.mem_cons_of_mem a hx)]

theorem idx_inj {U : List Elem} {x y : Elem} (hx : x ∈ U) (hy : y ∈ U) (h : idx U x = idx U y) : x = y :=
  Option.some.inj ((getElem?_idx hx).symm.trans (h ▸ getElem?_idx hy))

theorem idx_getD {U : List Elem} (hU : U.Nodup) {i : Nat} (hi : i < U.length) : idx U (U.getD i 0) = i := by
  rw [getD_of_lt hi]
  have m := List.getElem_mem hi
  exact (List.getElem?_inj (idx_lt m) hU).mp ((getElem?_idx m).trans (List.getElem?_eq_getElem hi).symm)

theorem bIdx_map_idx {U : List Elem} (hU : U.Nodup) (c : Ranking) (hc : ∀ y ∈ c.flatten, y ∈ U) {i : Nat}
    (hi : i < U.length) (hm : i ∈ (c.map fun b => b.map (idx U)).flatten) :
    (bIdx (c.map fun b => b.map (idx U)) i : Int) = bidIn c (U.getD i 0) := by
  have h := bucketIdx_map_inj (idx U) c (U.getD i 0) fun y hy h => idx_inj (hc y hy) (getD_mem 0 hi) h
  rw [idx_getD hU hi] at h
  rw [← bidIn_of_some (bucketIdx_eq_bIdx hm)]
  exact bidIn_congr h

theorem map_idx_elemsOf {U : List Elem} (hU : U.Nodup) {g : List Nat} (hg : ∀ i ∈ g, i < U.length) :
    (C06f.elemsOf U g).map (idx U) = g := by
  rw [C06f.elemsOf, List.map_map]
  exact map_eq_self fun i hi => idx_getD hU (hg i hi)

theorem elemsOf_subset {U : List Elem} {g : List Nat} (hg : ∀ i ∈ g, i < U.length) :
    ∀ x ∈ C06f.elemsOf U g, x ∈ U :=
  List.forall_mem_map.mpr fun j hj => getD_mem 0 (hg j hj)

theorem nodup_elemsOf {U : List Elem} (hU : U.Nodup) {g : List Nat} (hg : ∀ i ∈ g, i < U.length)
    (hn : g.Nodup) : (C06f.elemsOf U g).Nodup := by
  refine nodup_map_of_inj_on hn fun a ha b hb e => ?_
  rw [← idx_getD hU (hg _ ha), ← idx_getD hU (hg _ hb), e]

/-! ### projection on kept elements -/

def projR (keep : List Elem) (r : Ranking) : Ranking :=
  (r.map fun b => b.filter fun x => keep.contains x).filter fun b => !b.isEmpty

theorem projectKeepAll_eq (D : Dataset) (keep : List Elem) : projectKeepAll D keep = D.map (projR keep) := rfl

theorem projR_cons (keep : List Elem) (b : Bucket) (bs : Ranking) :
    projR keep (b :: bs) =
      if (b.filter fun x => keep.contains x).isEmpty then projR keep bs
      else (b.filter fun x => keep.contains x) :: projR keep bs := by
  unfold projR
  rw [List.map_cons, List.filter_cons]
  cases (b.filter fun x => keep.contains x).isEmpty <;> rfl

theorem mem_projR_flatten (keep : List Elem) (r : Ranking) (x : Elem) :
    x ∈ (projR keep r).flatten ↔ x ∈ keep ∧ x ∈ r.flatten := by
  rw [projR, List.flatten_filter_not_isEmpty, ← List.flatMap_def]
  simp only [List.mem_flatMap, List.mem_flatten, List.mem_filter, List.contains_iff_mem]
  exact ⟨fun ⟨b, hb, hx, hk⟩ => ⟨hk, b, hb, hx⟩, fun ⟨hk, b, hb, hx⟩ => ⟨b, hb, hx, hk⟩⟩

theorem status_projR (keep : List Elem) (r : Ranking) (x y : Elem) (hx : x ∈ keep) (hy : y ∈ keep) :
    Spec.status (projR keep r) x y = Spec.status r x y := by
  induction r with
  | nil => rfl
  | cons b bs ih =>
    have hb : ∀ z ∈ keep, (z ∈ (b.filter fun x => keep.contains x) ↔ z ∈ b) := fun z hz => by simp [hz]
    rw [projR_cons, status_cons]
    by_cases h : (b.filter fun x => keep.contains x).isEmpty
    · rw [if_pos h, ih]
      rw [List.isEmpty_iff.mp h] at hb
      simp [← hb x hx, ← hb y hy]
    · rw [if_neg h, status_cons]
      simp only [hb x hx, hb y hy, mem_projR_flatten, hx, hy, true_and, ih]

theorem costs_project (S : Scheme) (D : Dataset) (keep : List Elem) (x y : Elem) (hx : x ∈ keep) (hy : y ∈ keep) :
    Spec.before S (projectKeepAll D keep) x y = Spec.before S D x y ∧
    Spec.after S (projectKeepAll D keep) x y = Spec.after S D x y ∧
    Spec.tied S (projectKeepAll D keep) x y = Spec.tied S D x y := by
  simp only [Spec.before, Spec.after, Spec.tied, projectKeepAll_eq, List.map_map, Function.comp_def,
    status_projR keep _ x y hx hy, status_projR keep _ y x hy hx, and_self]

theorem isum_split_empty (L : List Ranking) (f : Ranking → Int) :
    isum (L.map f) =
      isum ((L.filter fun r => !r.isEmpty).map f) + ((L.filter fun r => r.isEmpty).length : Int) * f [] := by
  obtain ⟨k, hk⟩ : ∃ k, (L.filter fun r => r.isEmpty) = List.replicate k [] :=
    ⟨_, List.eq_replicate_iff.mpr ⟨rfl, fun r hr => List.isEmpty_iff.mp (List.mem_filter.mp hr).2⟩⟩
  rw [← isum_map_perm f (List.filter_append_perm (fun r => r.isEmpty) L), List.map_append, isum_append, hk,
    isum_map_replicate, List.length_replicate]
  exact Int.add_comm _ _

/-! ### the projected dataset -/

theorem mem_univOf_project (D : Dataset) (keep : List Elem) (x : Elem) :
    x ∈ univOf (projectKeepAll D keep) ↔ x ∈ keep ∧ x ∈ univOf D := by
  rw [mem_univOf, mem_univOf, projectKeepAll_eq]
  constructor
  · rintro ⟨_, hr', hx⟩
    obtain ⟨r, hr, rfl⟩ := List.mem_map.mp hr'
    obtain ⟨hk, hxr⟩ := (mem_projR_flatten keep r x).mp hx
    exact ⟨hk, r, hr, hxr⟩
  · rintro ⟨hk, r, hr, hxr⟩
    exact ⟨_, List.mem_map_of_mem hr, (mem_projR_flatten keep r x).mpr ⟨hk, hxr⟩⟩

theorem univOf_project_perm (D : Dataset) (keep : List Elem) (hkn : keep.Nodup)
    (hk : ∀ x ∈ keep, x ∈ univOf D) : (univOf (projectKeepAll D keep)).Perm keep :=
  (List.perm_ext_iff_of_nodup (nodup_univOf _) hkn).mpr fun x =>
    (mem_univOf_project D keep x).trans ⟨And.left, fun h => ⟨h, hk x h⟩⟩

theorem wellFormed_project (D : Dataset) (keep : List Elem) (hkn : keep.Nodup) (hk : ∀ x ∈ keep, x ∈ univOf D)
    (c : Ranking) (wf : wellFormedRanking (univOf (projectKeepAll D keep)) c = true) :
    (∀ b ∈ c, b ≠ []) ∧ c.flatten.Perm keep :=
  ⟨(wellFormed_iff.mp wf).1,
    (perm_of_wellFormed (nodup_univOf _) wf).trans (univOf_project_perm D keep hkn hk)⟩

theorem subtable_get (S : Scheme) (h01 : S.t0 = S.t1) (h34 : S.t3 = S.t4) (D : Dataset) (keep : List Elem)
    (i j : Nat) (hi : i < (univOf (projectKeepAll D keep)).length) (hj : j < (univOf (projectKeepAll D keep)).length) :
    (costMatrix S (getPositions (projectKeepAll D keep))).get i j =
      (costMatrix S (getPositions D)).get (idx (univOf D) (univOf (projectKeepAll D keep))[i])
        (idx (univOf D) (univOf (projectKeepAll D keep))[j]) := by
  obtain ⟨kx, ux⟩ := (mem_univOf_project D keep _).mp (List.getElem_mem hi)
  obtain ⟨ky, uy⟩ := (mem_univOf_project D keep _).mp (List.getElem_mem hj)
  obtain ⟨p1, p2, p3⟩ := costs_project S D keep _ _ kx ky
  have e : ∀ D, costMatrix S (getPositions D) = specTable S D :=
    costMatrix_rankFn_eq_specTable rankFn_posIn S h01 h34
  rw [e, e, specTable_get S _ hi hj, specTable_get S D (idx_lt ux) (idx_lt uy), getElem_idx ux, getElem_idx uy,
    p1, p2, p3]

/-! ### scores through the id map -/

theorem scoreVec_map (t t' : Table) (l : List Elem) (f : Elem → Nat)
    (h : ∀ i j (hi : i < l.length) (hj : j < l.length), t'.get i j = t.get (f l[i]) (f l[j])) (w : List Int) :
    scoreVec t' (l.map fun x => w.getD (f x) 0) = scoreIds t (l.map f) w := by
  unfold scoreVec scoreIds
  rw [List.length_map, pairs_map, List.map_map]
  refine isum_pairs_range l _ (fun x y => sel t w (f x) (f y)) fun i j hi hj _ => ?_
  rw [sel_eq, sel_eq, h i j hi hj, getD_map_of_lt hi, getD_map_of_lt hj]

theorem map_getD_idx_vecOf (U U' : List Elem) (hsub : ∀ x ∈ U', x ∈ U) (c : Ranking) :
    (U'.map fun x => (vecOf U c).getD (idx U x) 0) = vecOf U' c := by
  refine List.map_congr_left fun x hx => ?_
  have hxu := hsub x hx
  rw [vecOf, getD_map_of_lt (idx_lt hxu), getElem_idx hxu]

theorem scoreVec_project (S : Scheme) (h01 : S.t0 = S.t1) (h34 : S.t3 = S.t4) (D : Dataset) (keep : List Elem)
    (hkn : keep.Nodup) (hk : ∀ x ∈ keep, x ∈ univOf D) (w : List Int) :
    scoreVec (costMatrix S (getPositions (projectKeepAll D keep)))
        ((univOf (projectKeepAll D keep)).map fun x => w.getD (idx (univOf D) x) 0) =
      scoreIds (costMatrix S (getPositions D)) (keep.map (idx (univOf D))) w := by
  rw [scoreVec_map (costMatrix S (getPositions D)) _ _ _ (subtable_get S h01 h34 D keep)]
  refine scoreIds_perm (mirror_costMatrix S D) w ((univOf_project_perm D keep hkn hk).map _) fun i hi => ?_
  obtain ⟨x, hx, rfl⟩ := List.mem_map.mp hi
  exact idx_lt ((mem_univOf_project D keep x).mp hx).2

theorem vecOf_readIds (U : List Elem) (hU : U.Nodup) (r : List (List Nat)) (hp : isPartitionOf U.length r = true) :
    vecOf U (C05Opt.readIds U r) = (vecOfIds U.length r).map fun k => Int.ofNat k := by
  rw [vecOfIds, List.map_map]
  refine (map_range_eq_map (l := U) fun i hi => ?_).symm
  have hinj : ∀ j ∈ r.flatten, U.getD j 0 = U.getD i 0 → j = i := fun j hj e => by
    rw [← idx_getD hU ((L4.mem_partition_flatten hp).mp hj), e, idx_getD hU hi]
  have := bidIn_nonneg ((L4.mem_partition_flatten hp).mpr hi)
  rw [← getD_of_lt (d := 0) hi, C05Opt.readIds, bidIn_congr (bucketIdx_map_inj (fun i => U.getD i 0) r i hinj)]
  exact Int.toNat_of_nonneg this

end SubTable
end Corankco
