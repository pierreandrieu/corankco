import Corankco.Props.C05
import Corankco.Props.C06f
/-
  C05, the OPTIMISED exact algorithm.  It works like ParCons with an unbounded exact budget: the universe is split into
  the components of the graph of elements (topological order), a component that can be all tied is returned as one
  bucket, and for every other component the CPLEX integer program WITH the no-tie rows (`rowsCplex t' n' 0 true`) is
  built for the dataset projected on the component, solved, decoded and read back through the id map of the projected
  dataset.
-/
namespace Corankco
open Model Spec

/-- the element-level sub-solver of the optimised path.  `solve` is the ILP solver, a parameter: given the projected
    dataset it returns an assignment.  The scheme enters only the solver's contract `SolverOK`; the argument is kept,
    as `_S`, so that the sub-solver has the signature of the library's. -/
def optimizedExactE (_S : Scheme) (D : Dataset) (solve : Dataset → Asg) (keep : List Elem) : Ranking :=
  let sub := projectKeepAll D keep
  let n' := (univOf sub).length
  (decode (solve sub) n').map fun b => b.map fun i => (univOf sub).getD i 0

/-- solver contract on one sub-problem: the point it returns is feasible and optimal for the rows the model builds -/
def SolverOK (S : Scheme) (sub : Dataset) (a : Asg) : Prop :=
  let t' := costMatrix S (getPositions sub)
  let n' := (univOf sub).length
  feasible a n' (rowsCplex t' n' 0 true) = true ∧
  ∀ b : Asg, feasible b n' (rowsCplex t' n' 0 true) = true → evalLin a (objective t' n') ≤ evalLin b (objective t' n')

namespace C05d

theorem optimizedExactE_eq (S : Scheme) (D : Dataset) (solve : Dataset → Asg) (keep : List Elem) :
    optimizedExactE S D solve keep =
      C05Opt.readIds (univOf (projectKeepAll D keep))
        (decode (solve (projectKeepAll D keep)) (univOf (projectKeepAll D keep)).length) := rfl

/-- on one sub-problem, if the ILP solver honours its contract, `optimizedExactE` returns a ranking of exactly the
    elements `keep` that is a global optimum of the projected dataset (`hexact` of `C06_parcons_dataset`) -/
theorem optimizedExactE_spec (S : Scheme) (D : Dataset) (solve : Dataset → Asg) (keep : List Elem)
    (hne : keep ≠ []) (hkn : keep.Nodup) (hk : ∀ x ∈ keep, x ∈ univOf D)
    (hs : SolverOK S (projectKeepAll D keep) (solve (projectKeepAll D keep))) :
    (∀ b ∈ optimizedExactE S D solve keep, b ≠ []) ∧
    (optimizedExactE S D solve keep).flatten.Perm keep ∧
    Optimal (costMatrix S (getPositions (projectKeepAll D keep))) (univOf (projectKeepAll D keep)).length
      (vecOf (univOf (projectKeepAll D keep)) (optimizedExactE S D solve keep)) := by
  obtain ⟨hf, hmin⟩ := hs
  have hn : 0 < (univOf (projectKeepAll D keep)).length := by
    rw [(SubTable.univOf_project_perm D keep hkn hk).length_eq]
    exact List.length_pos_iff.mpr hne
  have hdec := (C05_decode _ hn _ ((C05c.feasible_cplex_iff _ _ _ 0 true).mp hf).1).1
  obtain ⟨h1, h2⟩ := SubTable.wellFormed_project D keep hkn hk _
    (L4.wellFormed_map_getD (nodup_univOf _) hdec)
  refine ⟨h1, h2, ?_⟩
  rw [optimizedExactE_eq, SubTable.vecOf_readIds _ (nodup_univOf _) _ hdec]
  exact C05_optimal_cplex _ _ hn (mirror_costMatrix S (projectKeepAll D keep)) true _ hf hmin

end C05d

/-- C05, optimised path: IF the ILP solver honours its contract on every sub-problem it is given (the projected dataset
    of each component that cannot be all tied), the consensus is a global optimum, for components in topological order
    (igraph's contract).  The algorithm is ParCons with the size bound `(univOf D).length`: `aux` is never called. -/
theorem C05_optimized (S : Scheme) (hS : S.Valid) (D : Dataset) (comps : List (List Nat))
    (h : isTopoSCC (costMatrix S (getPositions D)) (univOf D).length comps = true)
    (solve : Dataset → Asg)
    (hsolve : ∀ c ∈ comps, canBeAllTied c (costMatrix S (getPositions D)) = false →
      SolverOK S (projectKeepAll D (C06f.elemsOf (univOf D) c)) (solve (projectKeepAll D (C06f.elemsOf (univOf D) c))))
    (aux : List Nat → List (List Nat)) :
    Optimal (costMatrix S (getPositions D)) (univOf D).length
      ((vecOfIds (univOf D).length
          (parCons (costMatrix S (getPositions D)) comps (univOf D).length
            (C06f.liftExact (univOf D) (optimizedExactE S D solve)) aux).consensus).map fun k => Int.ofNat k) := by
  have hp := L4.isTopoSCC_partition h
  apply C06_parcons_dataset S hS D comps h (univOf D).length (optimizedExactE S D solve) aux
  · intro c hc hct
    have hlt : ∀ i ∈ c, i < (univOf D).length := fun i hi => L4.partition_lt hp hc hi
    apply C05d.optimizedExactE_spec S D solve
    · exact mt List.map_eq_nil_iff.mp (L4.partition_ne_nil hp c hc)
    · exact SubTable.nodup_elemsOf (nodup_univOf D) hlt (L4.partition_nodup hp hc)
    · exact SubTable.elemsOf_subset hlt
    · exact hsolve c hc hct
  · rw [(C06_flag _ comps _ _ aux).2, Bool.not_eq_true', List.any_eq_false]
    intro c hc
    have := L4.partition_length_le hp hc
    simp only [Bool.and_eq_true, Bool.not_eq_true', decide_eq_true_eq, not_and]
    exact fun _ => Nat.not_lt.mpr this

namespace C05d

theorem exists_opt_cplex (t : Table) (n : Nat) (hm : MirrorT t n) (active : Bool) :
    ∃ a : Asg, feasible a n (rowsCplex t n 0 active) = true ∧
      ∀ b : Asg, feasible b n (rowsCplex t n 0 active) = true → evalLin a (objective t n) ≤ evalLin b (objective t n) := by
  obtain ⟨v, hv, hve⟩ := C05c.exists_optimal_noTie t n hm active
  exact ⟨asgOfVec v, C05a.encoding_minimal t n hm _ v hv hve⟩

theorem solverOK_exists (S : Scheme) (sub : Dataset) : ∃ a : Asg, SolverOK S sub a :=
  exists_opt_cplex _ _ (mirror_costMatrix S sub) true

noncomputable def idealSolve (S : Scheme) (sub : Dataset) : Asg := Classical.choose (solverOK_exists S sub)

theorem idealSolve_ok (S : Scheme) (sub : Dataset) : SolverOK S sub (idealSolve S sub) :=
  Classical.choose_spec (solverOK_exists S sub)

end C05d

/-- C05, optimised path, non-vacuity: with a solver that honours `SolverOK` (there is one, `C05d.solverOK_exists`) the
    consensus is a global optimum; so the hypothesis `hsolve` of `C05_optimized` can be met on every instance. -/
theorem C05_optimized_ideal (S : Scheme) (hS : S.Valid) (D : Dataset) (comps : List (List Nat))
    (h : isTopoSCC (costMatrix S (getPositions D)) (univOf D).length comps = true)
    (aux : List Nat → List (List Nat)) :
    Optimal (costMatrix S (getPositions D)) (univOf D).length
      ((vecOfIds (univOf D).length
          (parCons (costMatrix S (getPositions D)) comps (univOf D).length
            (C06f.liftExact (univOf D) (optimizedExactE S D (C05d.idealSolve S))) aux).consensus).map
        fun k => Int.ofNat k) :=
  C05_optimized S hS D comps h (C05d.idealSolve S) (fun _ _ _ => C05d.idealSolve_ok S _) aux

end Corankco
