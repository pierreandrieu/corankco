import Corankco.Lemmas.SortGroup
import Corankco.Props.C02
/-
  Copeland.  The three counts the code reads off the table by index are the three pair classes of the definition
  (`copelandResults_spec`; by `C02_def` of Props/C02 the table the code builds is `specTable`).  The classes cover the
  `n - 1` opponents (`copVictories_total`) and the two sums over ordered pairs swap (`double_count`), so victories and
  defeats balance and the doubled scores add up to `n (n - 1)` (`score2_sum`).  `copeland_eq` gives the three outputs
  in terms of the definition, `copeland_ordersBy` the order of the consensus.
-/
namespace Corankco
open Model
namespace C13
open SortGroup

def score2 (S : Scheme) (D : Dataset) (x : Elem) : Nat :=
  2 * (Spec.copVictories S D x).1 + (Spec.copVictories S D x).2.1

theorem copelandResults_spec (S : Scheme) (D : Dataset) :
    copelandResults (Spec.specTable S D) = (univOf D).map (Spec.copVictories S D) := by
  unfold copelandResults Spec.copVictories
  rw [show (Spec.specTable S D).length = (univOf D).length from List.length_map ..]
  refine map_range_eq_map fun i hi => ?_
  simp only [Prod.mk.injEq]
  refine ⟨?_, ?_, ?_⟩ <;>
  · refine filter_idx_length (univOf D) (nodup_univOf D) i hi _ _ fun j hj hji => ?_
    simp only [Table.bef, Table.aft, specTable_get S D hi hj,
      if_neg (nodup_getElem_ne (nodup_univOf D) hi hj fun e => hji e.symm)]

theorem after_eq_before (S : Scheme) (D : Dataset) (x y : Elem) : Spec.after S D x y = Spec.before S D y x := rfl

theorem copVictories_total (S : Scheme) (D : Dataset) (x : Elem) (hx : x ∈ univOf D) :
    (Spec.copVictories S D x).1 + (Spec.copVictories S D x).2.1 + (Spec.copVictories S D x).2.2 + 1 =
      (univOf D).length := by
  rw [(perm_cons_filter_ne (nodup_univOf D) hx).length_eq, List.length_cons,
    ← (filter3_perm (Spec.before S D x) (Spec.after S D x) _).length_eq, List.length_append, List.length_append]
  rfl

theorem victories_eq_defeats (S : Scheme) (D : Dataset) :
    ((univOf D).map fun x => (Spec.copVictories S D x).1).sum =
      ((univOf D).map fun x => (Spec.copVictories S D x).2.2).sum :=
  -- `before x y > after x y` unfolds to `before y x < after y x`
  double_count (univOf D) fun x y => decide (Spec.before S D x y < Spec.after S D x y)

theorem score2_sum (S : Scheme) (D : Dataset) :
    ((univOf D).map (score2 S D)).sum = (univOf D).length * ((univOf D).length - 1) := by
  -- score + defeats = (n - 1) + victories for every element; victories and defeats balance over the universe
  apply Nat.add_right_cancel (m := ((univOf D).map fun x => (Spec.copVictories S D x).2.2).sum)
  rw [← sum_map_add,
    sum_map_congr (g := fun x => ((univOf D).length - 1) + (Spec.copVictories S D x).1) fun x hx => ?_,
    sum_map_add, List.map_const', List.sum_replicate_nat, victories_eq_defeats]
  rw [← copVictories_total S D x hx, score2, Nat.add_sub_cancel]
  simp +arith only

/-- `sc` of `Spec.C13.holds` is `score2` on the universe. -/
theorem sc_lookup (S : Scheme) (D : Dataset) (x : Elem) (hx : x ∈ univOf D) :
    ((((univOf D).zip (((univOf D).map (Spec.copVictories S D)).map fun v => 2 * v.1 + v.2.1)).lookup x).getD 0) =
      score2 S D x := by
  rw [List.map_map, ← List.map_prod_left_eq_zip, lookup_map_self hx]
  rfl

theorem ge_preorder : TotalPreorderOn (fun _ => True) fun a b : Elem × Nat => decide (a.2 ≥ b.2) where
  tot a b _ _ := by
    simp only [decide_eq_true_eq]
    exact Nat.le_total ..
  tr a b c _ _ _ := by
    simp only [decide_eq_true_eq]
    exact fun h h' => Nat.le_trans h' h

theorem copeland_eq (S : Scheme) (hS : S.Valid) (D : Dataset) :
    copeland S D =
      ((groupAdj (fun a b => a.2 == b.2)
        (sortBy (fun a b => decide (a.2 ≥ b.2)) ((univOf D).zip ((univOf D).map (score2 S D))))).map
          fun g => g.map (·.1),
        (univOf D).map (score2 S D), (univOf D).map (Spec.copVictories S D)) := by
  unfold copeland
  simp only [C02_def S hS D, copelandResults_spec, List.map_map]
  rfl

theorem copeland_ordersBy (S : Scheme) (hS : S.Valid) (D : Dataset) (sc : Elem → Nat)
    (hsc : ∀ x ∈ univOf D, sc x = score2 S D x) :
    Spec.ordersBy (univOf D) (fun x y => decide (sc x ≥ sc y)) (copeland S D).1 = true := by
  rw [copeland_eq S hS D, ← List.map_prod_left_eq_zip]
  refine ordersBy_sortGroup ge_preorder ?_ (nodup_univOf D) (fun _ => .rfl) (fun _ _ => trivial)
    fun x hx y hy => by rw [hsc x hx, hsc y hy]
  intro a b _ _
  rw [Bool.eq_iff_iff]
  simp only [beq_iff_eq, Bool.and_eq_true, decide_eq_true_eq]
  exact eq_comm.trans Nat.le_antisymm_iff

end C13
end Corankco
