import Corankco.Lemmas.C18Total
import Corankco.Lemmas.PyStr
import Corankco.Lemmas.C18Round
/-
  C18 — the text format of rankings: `parse_ranking_with_ties`, `Ranking.from_string`, `str(ranking)`, the file reader
  and writer. Totality: on every text, of any length, the parsers and the reader return a value or ValueError, the
  `while` loop ending within the fuel the model gives it (`C18_scan_terminates`, `C18_total`). Round trips: parsing the
  text of a ranking gives it back (`C18_roundtrip_int`, `C18_roundtrip_str`), and so does reading a written file
  (`C18_file_int`, `C18_file_str`).
-/
namespace Corankco
open Model

/-! ### totality -/

/-- a normalised slice or `find` bound is within the text -/
theorem C18_normIdx_le (n : Nat) (i : Int) : normIdx n i ≤ n :=
  PyStr.normIdx_le n i

/-- `s.find(c, a, b)` is `-1` or a position of `c` in `s` between the normalised bounds -/
theorem C18_pyFind_range (s : List Char) (c : Char) (a b : Int) :
    pyFind s c a b = -1 ∨ ((normIdx s.length a : Int) ≤ pyFind s c a b ∧ pyFind s c a b < normIdx s.length b ∧
      s[(pyFind s c a b).toNat]? = some c) := by
  rw [PyStr.pyFind_eq]
  split
  · rename_i h
    have hk : (s.drop (normIdx s.length a)).idxOf c < (s.drop (normIdx s.length a)).length := by
      rw [List.length_drop]
      exact Nat.lt_sub_iff_add_lt'.2 (Nat.lt_of_lt_of_le h (C18_normIdx_le _ b))
    refine .inr ⟨Int.ofNat_le.2 (Nat.le_add_right _ _), Int.ofNat_lt.2 h, ?_⟩
    rw [Int.toNat_natCast, ← List.getElem?_drop, List.getElem?_eq_getElem hk, List.getElem_idxOf]
  · exact .inl rfl

/-- the next `en_str` of the loop is `-1`, which ends the loop, or larger than the current one and below `len(s)` -/
theorem C18_next_en (s : List Char) (st' en rankingEnd : Int) (hen : 0 ≤ en) :
    pyFind s ']' (max (en + 1) (st' + 1)) rankingEnd = -1 ∨
      (en + 1 ≤ pyFind s ']' (max (en + 1) (st' + 1)) rankingEnd ∧
        pyFind s ']' (max (en + 1) (st' + 1)) rankingEnd < s.length) :=
  (PyStr.pyFind_cases s ']' rankingEnd (Int.le_trans (Int.le_add_one hen) (Int.le_max_left _ _))).imp_right fun h =>
    ⟨Int.le_trans (Int.le_max_left _ _) h.1, h.2⟩

/-- a bucket parse does not run out of fuel unless its converter does -/
theorem C18_parseBucket_total (conv : List Char → Except PErr Name) (hconv : ∀ e, conv e ≠ .error .outOfFuel)
    (text : List Char) : parseBucket conv text ≠ .error .outOfFuel := by
  unfold parseBucket
  apply C18.foldlM_ne_fuel
  intro acc piece
  simp only
  split
  · simp
  · have := hconv (pyStrip piece)
    split
    · simp
    · rename_i err h
      rw [h] at this
      simpa using this

/-- the index loop ends within any fuel above `len(s) - en`, such as the `len(s) + 2` of `parseTies`: `en_str` strictly
    increases. Without `hlt` the statement is false: `s = "a"`, `st = -5`, `en = 5`, `fuel = 1` runs out of fuel. -/
theorem C18_scan_terminates (conv : List Char → Except PErr Name) (hconv : ∀ e, conv e ≠ .error .outOfFuel)
    (s : List Char) (rankingEnd : Int) (ret : List NBucket) (st en oldEn : Int)
    (hen : -1 ≤ en) (hlt : en < s.length) (fuel : Nat) (hf : s.length + 1 - (en + 1).toNat < fuel) :
    scanLoop conv s rankingEnd fuel ret st en oldEn ≠ .error .outOfFuel := by
  -- the same measure without `toNat`, on which `omega` is slow
  replace hf : (s.length : Int) - en < fuel := by omega
  induction fuel generalizing ret st en oldEn with
  | zero => omega
  | succ fuel ih =>
    rw [scanLoop]
    split
    · rename_i hc
      have hen0 : 0 ≤ en := by
        simp only [bne_iff_ne, ne_eq, Bool.and_eq_true] at hc
        omega
      split
      · rename_i e he
        intro h
        cases h
        exact C18_parseBucket_total conv hconv _ he
      · simp only []
        rcases C18_next_en s (pyFind s '[' (en + 1) rankingEnd) en rankingEnd hen0 with h | ⟨h1, h2⟩
        · -- the loop exits at the next round
          obtain ⟨k, rfl⟩ := Nat.exists_eq_add_one_of_ne_zero (n := fuel) (by omega)
          rw [h, scanLoop]
          simp
        · exact ih _ _ _ _ (Int.le_trans (Int.le_add_one hen) h1) h2 (by omega)
    · simp

/-- `parse_ranking_with_ties` does not run out of fuel unless its converter does -/
theorem C18_total (conv : List Char → Except PErr Name) (hconv : ∀ e, conv e ≠ .error .outOfFuel)
    (input : List Char) : parseTies conv input ≠ .error .outOfFuel := by
  unfold parseTies pyFindFrom
  simp only []
  generalize List.map _ (pyStrip ((pySplit ':' (pyStrip input)).getLast?.getD [])) = s
  refine C18.ite_ne_fuel (by simp) (C18.ite_ne_fuel (by simp) ?_)
  generalize hx : scanLoop _ _ _ _ _ _ _ _ = x
  -- `en` starts at `s.find(']')`, which is `-1` or an index of `s`
  have hen := PyStr.pyFind_cases s ']' s.length (Int.le_refl 0)
  have hloop : x ≠ .error .outOfFuel := hx ▸ C18_scan_terminates conv hconv s _ [] _ _ _ (by omega) (by omega) _
    (Nat.lt_succ_of_le (Nat.sub_le _ _))
  match x with
  | .error e => simpa using hloop
  | .ok (ret, st', en', oldEn) => exact C18.ite_ne_fuel (by simp) (C18.ite_ne_fuel (by simp) (by simp))

theorem convStr_ne_fuel (e : List Char) : convStr e ≠ .error .outOfFuel := by simp [convStr]

theorem convInt_ne_fuel (e : List Char) : convInt e ≠ .error .outOfFuel := by
  unfold convInt
  split <;> simp

/-- totality: on every text `parse_ranking_with_ties_of_str` returns a value or ValueError -/
theorem C18_total_str (input : List Char) : parseTies convStr input ≠ .error .outOfFuel :=
  C18_total convStr convStr_ne_fuel input

/-- the same for `parse_ranking_with_ties_of_int` -/
theorem C18_total_int (input : List Char) : parseTies convInt input ≠ .error .outOfFuel :=
  C18_total convInt convInt_ne_fuel input

/-- the same for `Ranking.from_string` -/
theorem C18_total_fromString (input : List Char) : fromString input ≠ .error .outOfFuel := by
  unfold fromString
  split
  · rename_i e he
    have := C18_total_str input
    rw [he] at this
    simpa using this
  · simp only
    split <;> simp

/-- the same for `get_rankings_from_file`, on the text of the file -/
theorem C18_total_readFile (text : List Char) : readFile text ≠ .error .outOfFuel := by
  unfold readFile
  simp only
  generalize List.filter _ _ = lines
  split
  · simp
  · exact C18.mapM_ne_fuel C18_total_str _
  · rename_i e hne he
    cases e with
    | valueError => exact absurd rfl hne
    | outOfFuel => exact absurd he (C18.mapM_ne_fuel C18_total_int lines)

/-! ### round trips -/

/-- rankings of non-negative integers with non-empty, pairwise disjoint buckets -/
def IntRanking (r : NRanking) : Prop :=
  (∀ b ∈ r, b ≠ []) ∧ r.flatten.Nodup ∧ ∀ x ∈ r.flatten, ∃ n : Nat, x = .int (Int.ofNat n)

def AllWs (s : List Char) : Prop := ∀ c ∈ s, isWs c = true

/-- the decimal text of a natural number parses back to it -/
theorem C18_digits_roundtrip (n : Nat) :
    isDigitStr (intRepr (Int.ofNat n)) = true ∧ digitsVal (intRepr (Int.ofNat n)) = n :=
  ⟨PyStr.isDigitStr_intRepr n, PyStr.digitsVal_intRepr n⟩

/-- text round trip, non-negative integer elements: `Ranking.from_string` on `str(ranking)`, in brace or bracket
    notation, with any blank padding and any `label:` prefix, gives the ranking back -/
theorem C18_roundtrip_int (r : NRanking) (h : IntRanking r) (brackets : Bool)
    (pre post label : List Char) (hpre : AllWs pre) (hpost : AllWs post) (usePrefix : Bool) :
    fromString (pre ++ (if usePrefix then label ++ [':'] else []) ++
        (if brackets then renderRankingBrackets r else renderRanking r) ++ post) = .ok r := by
  obtain ⟨hb, hnd, hint⟩ := h
  -- `from_string` reads the decimal texts as strings and converts them back
  have hback : ∀ b ∈ r, (b.map fun x => Name.str (nameText x)).map Name.toIntName = b := by
    intro b hb'
    rw [List.map_map]
    refine map_eq_self fun x hx => ?_
    obtain ⟨n, rfl⟩ := hint x (List.mem_flatten_of_mem hb' hx)
    simp only [Function.comp, nameText, Name.toIntName, PyStr.digitsVal_intRepr]
    rfl
  have hparse := C18R.parseTies_render_ok convStr (fun x => .str (nameText x)) r brackets usePrefix pre post label
    hb ?_ ?_ hpre hpost
  · refine C18R.fromString_of_parse_int hparse ?_ ?_ hnd
    · simp only [List.all_map, List.all_eq_true, Function.comp_def]
      intro b hb' x hx
      obtain ⟨n, rfl⟩ := hint x (List.mem_flatten_of_mem hb' hx)
      exact PyStr.isDigitStr_intRepr n
    · rw [List.map_map]
      exact map_eq_self hback
  · intro x hx
    obtain ⟨n, rfl⟩ := hint x hx
    exact ⟨C18R.goodText_intRepr n, rfl⟩
  · intro b hb'
    -- distinct after the conversion back, hence distinct
    refine List.Pairwise.of_map (S := (· ≠ ·)) Name.toIntName (fun _ _ h e => h (congrArg _ e)) ?_
    rw [hback b hb']
    exact nodup_of_mem_flatten hnd hb'

/-- string elements free of the format's delimiters and of line breaks, not digit strings, no outer blanks -/
def SafeStr (s : List Char) : Prop :=
  s ≠ [] ∧ (∀ c ∈ s, c ≠ '[' ∧ c ≠ ']' ∧ c ≠ '{' ∧ c ≠ '}' ∧ c ≠ ',' ∧ c ≠ ':' ∧ c ≠ '\n') ∧
  pyStrip s = s ∧ isDigitStr s = false

def StrRanking (r : NRanking) : Prop :=
  (∀ b ∈ r, b ≠ []) ∧ r.flatten.Nodup ∧ ∀ x ∈ r.flatten, ∃ s, x = .str s ∧ SafeStr s

/-- text round trip, string elements, of which `C18_roundtrip_str` is a case: names may be digit strings as long as
    one is not (otherwise `from_string` converts every name to an int), and a `label:` prefix is allowed -/
theorem C18_roundtrip_str_mixed (r : NRanking) (hb : ∀ b ∈ r, b ≠ []) (hnd : r.flatten.Nodup)
    (hx : ∀ x ∈ r.flatten, ∃ s, x = .str s ∧ s ≠ [] ∧
      (∀ c ∈ s, c ≠ '[' ∧ c ≠ ']' ∧ c ≠ '{' ∧ c ≠ '}' ∧ c ≠ ',' ∧ c ≠ ':') ∧ pyStrip s = s)
    (hmix : ∃ x ∈ r.flatten, x.canBeInt = false) (brackets : Bool)
    (pre post label : List Char) (hpre : AllWs pre) (hpost : AllWs post) (usePrefix : Bool) :
    fromString (pre ++ (if usePrefix then label ++ [':'] else []) ++
        (if brackets then renderRankingBrackets r else renderRanking r) ++ post) = .ok r := by
  have hparse := C18R.parseTies_render_ok convStr id r brackets usePrefix pre post label hb ?_
    (fun b hb' => by simpa using nodup_of_mem_flatten hnd hb') hpre hpost
  · simp only [List.map_id_fun, id_eq, List.map_id'] at hparse
    refine C18R.fromString_of_parse hparse ?_ hnd
    obtain ⟨x, hxr, hxi⟩ := hmix
    obtain ⟨b, hbr, hxb⟩ := List.mem_flatten.1 hxr
    rw [List.all_eq_false]
    refine ⟨b, hbr, ?_⟩
    rw [Bool.not_eq_true, List.all_eq_false]
    exact ⟨x, hxb, by simp [hxi]⟩
  · intro x hxr
    obtain ⟨s, rfl, hne, hdel, hstrip⟩ := hx x hxr
    exact ⟨⟨hne, hstrip, hdel⟩, rfl⟩

/-- text round trip, string elements -/
theorem C18_roundtrip_str (r : NRanking) (h : StrRanking r) (hne : r ≠ []) (brackets : Bool)
    (pre post : List Char) (hpre : AllWs pre) (hpost : AllWs post) :
    fromString (pre ++ (if brackets then renderRankingBrackets r else renderRanking r) ++ post) = .ok r := by
  obtain ⟨hb, hnd, hx⟩ := h
  have := C18_roundtrip_str_mixed r hb hnd ?_ ?_ brackets pre post [] hpre hpost false
  · simpa using this
  · intro x hxr
    obtain ⟨s, rfl, h1, h2, h3, -⟩ := hx x hxr
    exact ⟨s, rfl, h1, fun c hc => (C18R.Plain.of_and (h2 c hc)).1, h3⟩
  · obtain ⟨b, hbr⟩ := List.exists_mem_of_ne_nil r hne
    obtain ⟨x, hxb⟩ := List.exists_mem_of_ne_nil b (hb b hbr)
    obtain ⟨s, rfl, -, -, -, h4⟩ := hx x (List.mem_flatten_of_mem hbr hxb)
    exact ⟨_, List.mem_flatten_of_mem hbr hxb, h4⟩

/-- file round trip, non-negative integer elements: reading what was written gives back the rankings (bucket lists) -/
theorem C18_file_int (rs : List NRanking) (h : ∀ r ∈ rs, IntRanking r) :
    readFile (writeFile rs) = .ok rs := by
  refine C18R.readFile_write rs ?_ (Or.inl ?_)
  · intro r hr
    have hd : ∀ x ∈ r.flatten, ∀ c ∈ nameText x, c.isDigit = true := by
      intro x hxr c hc
      obtain ⟨n, rfl⟩ := (h r hr).2.2 x hxr
      exact PyStr.isDigit_of_mem_intRepr hc
    exact ⟨C18R.notin_render (by decide) fun x hxr hc => absurd (hd x hxr _ hc) (by decide),
      C18R.notin_render (by decide) fun x hxr hc => absurd (hd x hxr _ hc) (by decide)⟩
  · intro r hr
    obtain ⟨hb, hnd, hint⟩ := h r hr
    refine C18R.parseTies_renderRanking convInt hb (fun x hxr => ?_) hnd
    obtain ⟨n, rfl⟩ := hint x hxr
    exact ⟨C18R.goodText_intRepr n, PyStr.convInt_intRepr n⟩

/-- a string element a file gives back: `SafeStr` without backslashes, and not readable by Python's `int()`, which is
    more than not being a digit string -/
def FileStr (s : List Char) : Prop :=
  s ≠ [] ∧ (∀ c ∈ s, c ≠ '[' ∧ c ≠ ']' ∧ c ≠ '{' ∧ c ≠ '}' ∧ c ≠ ',' ∧ c ≠ ':' ∧ c ≠ '\n' ∧ c ≠ '\\') ∧
  pyStrip s = s ∧ pyInt s = none

def FileStrRanking (r : NRanking) : Prop :=
  (∀ b ∈ r, b ≠ []) ∧ r.flatten.Nodup ∧ ∀ x ∈ r.flatten, ∃ s, x = .str s ∧ FileStr s

/-- file round trip, string elements (empty rankings allowed, also a file of empty rankings only) -/
theorem C18_file_str (rs : List NRanking) (h : ∀ r ∈ rs, FileStrRanking r) :
    readFile (writeFile rs) = .ok rs := by
  have hgood : ∀ r ∈ rs, ∀ x ∈ r.flatten, C18R.GoodText (nameText x) ∧ Name.str (nameText x) = x ∧
      pyInt (nameText x) = none ∧ '\\' ∉ nameText x ∧ '\n' ∉ nameText x := by
    intro r hr x hxr
    obtain ⟨s, rfl, hne, hdel, hstrip, hint⟩ := (h r hr).2.2 x hxr
    exact ⟨⟨hne, hstrip, fun c hc => (C18R.Plain.of_and (hdel c hc)).1⟩, rfl, hint,
      fun hc => (C18R.Plain.of_and (hdel _ hc)).2.2 rfl, fun hc => (C18R.Plain.of_and (hdel _ hc)).2.1 rfl⟩
  have hchars : ∀ r ∈ rs, '\\' ∉ renderRanking r ∧ '\n' ∉ renderRanking r := fun r hr =>
    ⟨C18R.notin_render (by decide) fun x hxr => (hgood r hr x hxr).2.2.2.1,
      C18R.notin_render (by decide) fun x hxr => (hgood r hr x hxr).2.2.2.2⟩
  refine C18R.readFile_write rs hchars (Or.inr ⟨?_, ?_⟩)
  · -- the int parser accepts an empty ranking and refuses any other with ValueError
    intro r hr
    match r, hr with
    | [], _ => exact .inl (C18R.parseTies_render_nil convInt)
    | [] :: rest, hr => exact absurd rfl ((h _ hr).1 [] (by simp))
    | (x :: xs) :: rest, hr =>
      refine .inr (C18R.parseTies_render_err convInt .valueError x xs rest (h _ hr).1
        (fun y hy => (hgood _ hr y hy).1) ?_)
      unfold convInt
      rw [(hgood _ hr x (by simp)).2.2.1]
  · -- the string parser gives every ranking back
    intro r hr
    obtain ⟨hb, hnd, -⟩ := h r hr
    exact C18R.parseTies_renderRanking convStr hb
      (fun x hxr => ⟨(hgood r hr x hxr).1, congrArg Except.ok (hgood r hr x hxr).2.1⟩) hnd

/-- the hypotheses are satisfiable by a non-trivial dataset (ties, an empty ranking, a digit-free and a mixed name) -/
example : ∀ r ∈ ([[[.str "a".toList, .str "b7".toList], [.str "x y".toList]], [], [[.str "b7".toList]]] : List NRanking),
    FileStrRanking r := by
  -- each name once, then the shape of the rankings
  have hs : ∀ s ∈ ["a".toList, "b7".toList, "x y".toList], FileStr s := by
    unfold FileStr
    decide +kernel
  intro r hr
  have : (∀ b ∈ r, b ≠ []) ∧ r.flatten.Nodup ∧
      ∀ x ∈ r.flatten, ∃ s ∈ ["a".toList, "b7".toList, "x y".toList], x = .str s := by
    revert r
    decide +kernel
  exact ⟨this.1, this.2.1, fun x hx => let ⟨s, hm, e⟩ := this.2.2 x hx; ⟨s, e, hs s hm⟩⟩

end Corankco
