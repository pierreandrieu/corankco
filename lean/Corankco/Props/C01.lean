import Corankco.Spec.C01
import Corankco.Lemmas.C01Cost
import Corankco.Lemmas.C01Score
/-
  C01 — the n·log n Kemeny score routine (`kemeny_score_computation.py`) returns the pairwise-penalty definition
  `Spec.kemeny`, or refuses a candidate that lacks a dataset element. `C01_counts` says what the two count vectors
  of one input ranking count; the score is their dot products with the penalty vectors.
-/
namespace Corankco
open Model

/-- A candidate lacking a dataset element is refused. -/
theorem C01_refuse (S : Scheme) (D : Dataset) (c : Ranking) (h : Spec.covers c D = false) :
    getScore S c D = .error .invalidRankings :=
  if_neg (ne_true_of_eq_false h)

/-- What the two vectors of `costByRanking c r` count. `nOrd c r k`: the pairs that `c` orders, of status `k` in `r`
    read from the element that `c` places first; `nTie c r k`: the pairs that `c` ties, of status `k` in `r`.
    `nOrd _ _ 0` and `nTie _ _ 2` are not computed; the tied pairs of statuses 0/1 (strictly ordered in `r`) and 3/4
    (exactly one element ranked) are counted together. -/
theorem C01_counts (c r : Ranking) (hc : c.flatten.Nodup) (hr : r.flatten.Nodup)
    (hsub : ∀ x ∈ r.flatten, x ∈ c.flatten) :
    costByRanking c r =
      ([0, C01.nOrd c r 1, C01.nOrd c r 2, C01.nOrd c r 3, C01.nOrd c r 4, C01.nOrd c r 5],
       [C01.nTie c r 0 + C01.nTie c r 1, 0, 0, C01.nTie c r 3 + C01.nTie c r 4, 0, C01.nTie c r 5]) :=
  (C01.costByRanking_closed c r hc hr hsub).trans (C01.counts_closed c r hc hr hsub).symm

/-- `C01_score` under the four constraints of `Scheme.Valid` that it uses. -/
theorem C01_score' (S : Scheme) (hb0 : S.b0 = 0) (ht01 : S.t0 = S.t1) (ht2 : S.t2 = 0) (ht34 : S.t3 = S.t4)
    (D : Dataset) (c : Ranking) (hc : c.flatten.Nodup) (hD : ∀ r ∈ D, r.flatten.Nodup)
    (hcov : Spec.covers c D = true) : getScore S c D = .ok (Spec.kemeny S D c) := by
  have hsub := fun r hr x hx => C01.covers_iff.mp hcov x (mem_univOf_of_mem (r := r) hr hx)
  refine (if_pos hcov).trans (congrArg Except.ok ((C01.foldl_addVec_dot (costByRanking c) S.bList S.tList 6 D
    (fun _ _ => ⟨rfl, rfl⟩) _ rfl rfl).trans ?_))
  rw [isum_map_congr fun r hr => show _ = Spec.kemenyOne S c r by
    rw [C01_counts c r hc (hD r hr) (hsub r hr)]; exact C01.dot_counts_eq_kemenyOne S hb0 ht01 ht2 ht34 c r]
  simp only [dot, Scheme.bList, Scheme.tList, Int.natCast_zero, Int.zero_mul, Int.add_zero, Int.zero_add,
    Spec.kemeny]

/-- The n·log n routine returns the pairwise-penalty definition, for every valid scheme, every dataset of
    rankings with disjoint buckets (incomplete, ties, empty rankings) and every candidate with disjoint buckets
    over the universe or a superset of it. -/
theorem C01_score (S : Scheme) (hS : S.Valid) (D : Dataset) (c : Ranking)
    (hc : c.flatten.Nodup) (hD : ∀ r ∈ D, r.flatten.Nodup) (hcov : Spec.covers c D = true) :
    getScore S c D = .ok (Spec.kemeny S D c) :=
  C01_score' S hS.b0 hS.t01 hS.t2 hS.t34 D c hc hD hcov

/-- `C01_refuse` and `C01_score` together, as the decidable predicate the checker evaluates on implementation
    outputs. -/
theorem C01_holds (S : Scheme) (hS : S.Valid) (D : Dataset) (c : Ranking)
    (hc : c.flatten.Nodup) (hD : ∀ r ∈ D, r.flatten.Nodup) :
    Spec.C01.holds S D c (match getScore S c D with | .ok v => some v | .error _ => none) = true := by
  unfold Spec.C01.holds
  cases hcov : Spec.covers c D with
  | true => rw [C01_score S hS D c hc hD hcov]; simp
  | false => rw [C01_refuse S D c hcov]; simp

/-! ### non-vacuity: 5 elements, 3 rankings with ties, element `4` missing from the second ranking,
    candidate over the strict superset `{0, …, 6}` -/

def C01.exS : Scheme :=
  { b0 := 0, b1 := 2, b2 := 1, b3 := 1, b4 := 2, b5 := 1, t0 := 2, t1 := 2, t2 := 0, t3 := 1, t4 := 1, t5 := 3 }
def C01.exD : Dataset := [[[0, 1], [2], [3, 4]], [[2], [0, 3], [1]], [[4, 3], [2, 1, 0]]]
def C01.exC : Ranking := [[1, 5], [0, 2], [6], [3, 4]]

example : C01.exS.Valid ∧ C01.exC.flatten.Nodup ∧ (∀ r ∈ C01.exD, r.flatten.Nodup) ∧
    Spec.covers C01.exC C01.exD = true := by decide +kernel

example : getScore C01.exS C01.exC C01.exD = .ok (Spec.kemeny C01.exS C01.exD C01.exC) :=
  C01_score _ (by decide +kernel) _ _ (by decide +kernel) (by decide +kernel) (by decide +kernel)

example : Spec.kemeny C01.exS C01.exD C01.exC = 79 := by decide +kernel

-- the compiled routine and the definition agree (and give 79) on this instance
#guard (match getScore C01.exS C01.exC C01.exD with
  | .ok v => v == Spec.kemeny C01.exS C01.exD C01.exC && v == 79
  | .error _ => false)

end Corankco
