import Corankco.Lemmas.BioDelta
import Corankco.Lemmas.BioSearch
import Corankco.Lemmas.BioMove
import Corankco.Lemmas.Rows
import Corankco.Lemmas.L4
/-
  One step of a sweep (`sweepStep_spec`) either changes nothing, and then no single-element move of `x` improves the
  score by more than `τ` (`NoMoveAt`), or makes a move that keeps the vector dense, keeps score minus running delta, and
  lowers the running delta by more than `τ` (`Improved`); a run of steps has the same alternative (`sweep_spec`).
  `improveLoop_spec` draws both conclusions about the loop: with more fuel than the distance of the score to its lower
  bound the exit is normal, and a normal exit is at a local optimum.  For a run on a dataset, `bioLoop_spec` describes
  the recorded results and `bioRun_out` the returned rankings.
-/
namespace Corankco
open Model Spec
namespace BioSM

def NoMoveAt (t : Table) (τ : Int) (r : List Nat) (x : Nat) : Prop :=
  (∀ j, j ≤ r.foldl max 0 → j ≠ r.getD x 0 →
      scoreVecN t r - τ ≤ scoreVec t (moveKeys r x (2 * (Int.ofNat j) + 1))) ∧
  (∀ p, p ≤ r.foldl max 0 + 1 →
      scoreVecN t r - τ ≤ scoreVec t (moveKeys r x (2 * (Int.ofNat p))))

structure Improved (t : Table) (τ : Int) (r : List Nat) (delta : Int) (st' : SweepSt) : Prop where
  moved : st'.moved = true
  dense : DenseN st'.r
  length : st'.r.length = r.length
  maxId : st'.maxId = st'.r.foldl max 0
  score : scoreVecN t st'.r - st'.delta = scoreVecN t r - delta
  drop : st'.delta < delta - τ

theorem lt_of_lt_sub {a b τ : Int} (hτ : 0 ≤ τ) (h : a < b - τ) : a < b :=
  Int.lt_of_lt_of_le h (Int.sub_le_self _ hτ)

theorem Improved.trans {t : Table} {τ : Int} (hτ : 0 ≤ τ) {r : List Nat} {delta : Int} {b c : SweepSt}
    (h1 : Improved t τ r delta b) (h2 : Improved t τ b.r b.delta c) : Improved t τ r delta c :=
  ⟨h2.moved, h2.dense, h2.length.trans h1.length, h2.maxId, h2.score.trans h1.score,
    Int.lt_trans (lt_of_lt_sub hτ h2.drop) h1.drop⟩

theorem MoveOK.improved {t : Table} {τ : Int} {r : List Nat} {delta : Int} {x : Nat} {K : Int} {r' : List Nat}
    {M' : Nat} {d : Int} (m : MoveOK r r' (moveKeys r x K) M') (h2 : d = scoreVec t (moveKeys r x K) - scoreVecN t r)
    (h3 : scoreVec t (moveKeys r x K) - scoreVecN t r < -τ) :
    Improved t τ r delta { r := r', maxId := M', delta := delta + d, moved := true } := by
  refine ⟨rfl, m.1, m.2.1, m.2.2.2.symm, ?_, Int.add_lt_add_left (h2 ▸ h3) _⟩
  show scoreVecN t r' - (delta + d) = _
  rw [scoreVecN_of_cmp t r _ _ m.2.1 length_moveKeys m.2.2.1, h2]
  omega

theorem sweepStep_spec (t : Table) (τ : Int) (hτ : 0 ≤ τ) (st : SweepSt) (x : Nat)
    (hm : MirrorT t st.r.length) (hd : DenseN st.r) (hx : x < st.r.length) (hmax : st.maxId = st.r.foldl max 0) :
    (sweepStep t τ st x = st ∧ NoMoveAt t τ st.r x) ∨ Improved t τ st.r st.delta (sweepStep t τ st x) := by
  have hbM := (DenseN.mem_iff_le hd (Nat.zero_lt_of_lt hx) _).mp (getD_mem 0 hx)
  have hMn := DenseN.max_lt_length hd (Nat.zero_lt_of_lt hx)
  obtain ⟨hl1, hl2, hch, had, ha⟩ := computeDelta_spec t st.r hm (DenseN.lt_length hd) x hx
  -- on the computed arrays both searches look for a score difference below `-τ`
  have hC := searchChange_scan τ _ _ hbM (computeDelta t st.r x).1
    (hl1 ▸ Nat.lt_succ_of_lt (Nat.add_lt_add_right hMn 1))
  have hA := searchAdd_spec τ _ _ hbM (computeDelta t st.r x).2.1
    (hl2 ▸ Nat.lt_succ_of_lt (Nat.add_lt_add_right hMn 2))
  rw [funext hch] at hC
  rw [funext had] at hA
  unfold sweepStep
  rw [hmax]
  rcases hsc : searchChange τ (st.r.getD x 0) (computeDelta t st.r x).1 (st.r.foldl max 0) with ⟨_ | to, ch'⟩
  · rcases hsa : searchAdd τ (st.r.getD x 0) (computeDelta t st.r x).2.1 (st.r.foldl max 0) with ⟨_ | to, ad'⟩
    · simp only [hsc, hsa]
      exact Or.inl ⟨trivial, fun j hj _ => Int.add_le_of_le_sub_left (hC.none hsc j hj),
        fun p hp => Int.add_le_of_le_sub_left (hA.none hsa p hp)⟩
    · obtain ⟨h1, h2, h3⟩ := hA.some hsa
      simp only [hsc, hsa]
      exact Or.inr ((bio_addBucket st.r hd x hx to h1 _ ha).improved h2 h3)
  · obtain ⟨h1, h2, h3⟩ := hC.some hsc
    -- staying in its bucket changes nothing, so the target is another bucket
    have hjb : to ≠ st.r.getD x 0 := fun e => by
      rw [e, ← scoreVecN_eq_keys, Int.sub_self] at h3
      exact Int.not_lt.mpr hτ (Int.neg_pos.mp h3)
    simp only [hsc]
    exact Or.inr ((bio_changeBucket st.r hd x hx to h1 hjb _ ha).improved h2 h3)

theorem sweep_spec (t : Table) (τ : Int) (hτ : 0 ≤ τ) (xs : List Nat) (st : SweepSt)
    (hm : MirrorT t st.r.length) (hd : DenseN st.r) (hmax : st.maxId = st.r.foldl max 0)
    (hxs : ∀ x ∈ xs, x < st.r.length) :
    (xs.foldl (sweepStep t τ) st = st ∧ ∀ x ∈ xs, NoMoveAt t τ st.r x) ∨
    Improved t τ st.r st.delta (xs.foldl (sweepStep t τ) st) := by
  induction xs generalizing st with
  | nil => exact Or.inl ⟨rfl, nofun⟩
  | cons x xs ih =>
    obtain ⟨hx, hxs⟩ := List.forall_mem_cons.mp hxs
    rw [List.foldl_cons]
    rcases sweepStep_spec t τ hτ st x hm hd hx hmax with ⟨e, hn⟩ | h1
    · rw [e]
      exact (ih st hm hd hmax hxs).imp_left fun ⟨e', hn'⟩ => ⟨e', List.forall_mem_cons.mpr ⟨hn, hn'⟩⟩
    · rw [← h1.length] at hm hxs
      rcases ih _ hm h1.dense h1.maxId hxs with ⟨e', _⟩ | h2
      · rw [e']
        exact Or.inr h1
      · exact Or.inr (h1.trans hτ h2)

theorem localOptVec_of_noMove (t : Table) (τ : Int) (r : List Nat)
    (h : ∀ x ∈ List.range r.length, NoMoveAt t τ r x) : localOptVec t τ r = true := by
  simp only [localOptVec, List.all_eq_true, List.mem_range, Bool.and_eq_true, Bool.or_eq_true, beq_iff_eq,
    decide_eq_true_eq, ge_iff_le] at h ⊢
  exact fun x hx => ⟨fun j hj => Decidable.or_iff_not_imp_left.mpr ((h x hx).1 j (Nat.le_of_lt_succ hj)),
    fun p hp => (h x hx).2 p (Nat.le_of_lt_succ hp)⟩

/-- the fuel bound: a sweep that moves lowers the score, an integer that `L4.lower` bounds from below, by more than
    `τ ≥ 0`; a normal exit follows a sweep without move -/
theorem improveLoop_spec (t : Table) (τ : Int) (hτ : 0 ≤ τ) (fuel : Nat) (r : List Nat) (M : Nat) (delta : Int)
    (hm : MirrorT t r.length) (hd : DenseN r) (hM : M = r.foldl max 0) (r' : List Nat) (d : Int) (b : Bool)
    (h : improveLoop t τ fuel r M delta = (r', d, b)) :
    (scoreVecN t r - L4.lower t r.length < fuel → b = true) ∧
    (b = true → DenseN r' ∧ r'.length = r.length ∧ localOptVec t τ r' = true ∧
      scoreVecN t r' - d = scoreVecN t r - delta ∧ d ≤ delta) := by
  induction fuel generalizing r M delta with
  | zero =>
    have := L4.lower_le t (r.map fun v => Int.ofNat v)
    rw [List.length_map] at this
    cases h
    exact ⟨fun hf => absurd this (Int.not_le.mpr (Int.lt_of_sub_neg hf)), nofun⟩
  | succ fuel ih =>
    have key := sweep_spec t τ hτ (List.range r.length) ⟨r, M, delta, false⟩ hm hd hM fun _ => List.mem_range.mp
    unfold improveLoop sweep at h
    simp only [] at h key
    generalize (List.range r.length).foldl (sweepStep t τ) _ = st at h key
    rcases key with ⟨e, hn⟩ | ⟨s1, s2, s3, s4, s5, s6⟩
    · subst e
      cases h
      exact ⟨fun _ => rfl, fun _ => ⟨hd, rfl, localOptVec_of_noMove t τ r hn, rfl, Int.le_refl _⟩⟩
    · rw [if_pos s1] at h
      obtain ⟨t1, t2⟩ := ih _ _ _ (s3.symm ▸ hm) s2 s4 h
      rw [s3] at t1 t2
      refine ⟨fun hf => t1 (by omega), fun hb => ?_⟩
      obtain ⟨j1, j2, j3, j4, j5⟩ := t2 hb
      exact ⟨j1, j2, j3, j4.trans s5, Int.le_trans j5 (Int.le_of_lt (lt_of_lt_sub hτ s6))⟩

theorem improveLoop_mono (t : Table) (τ : Int) (fuel fuel' : Nat) (r : List Nat) (M : Nat) (delta : Int)
    (h : fuel ≤ fuel') (hok : (improveLoop t τ fuel r M delta).2.2 = true) :
    improveLoop t τ fuel' r M delta = improveLoop t τ fuel r M delta := by
  induction fuel generalizing fuel' r M delta with
  | zero => cases hok
  | succ fuel ih =>
    cases fuel' with
    | zero => cases h
    | succ f =>
      unfold improveLoop at hok ⊢
      simp only [] at hok ⊢
      split
      · next hmv =>
        rw [if_pos hmv] at hok
        exact ih f _ _ _ (Nat.le_of_succ_le_succ h) hok
      · rfl

theorem improveOne_spec (t : Table) (τ : Int) (hτ : 0 ≤ τ) (fuel n : Nat) (hm : MirrorT t n) (r : List Nat)
    (hd : DenseN r) (hl : r.length = n) (r' : List Nat) (d : Int) (b : Bool) (h : improveOne t τ fuel r = (r', d, b))
    (hb : b = true) :
    DenseN r' ∧ r'.length = n ∧ localOptVec t τ r' = true ∧ dstInit t r + d = scoreVecN t r' ∧
    dstInit t r + d ≤ scoreVecN t r := by
  subst hl
  obtain ⟨h1, h2, h3, h4, h5⟩ := (improveLoop_spec t τ hτ fuel r _ 0 hm hd rfl r' d b h).2 hb
  rw [dstInit_eq]
  exact ⟨h1, h2, h3, by omega⟩

theorem bioLoop_spec (t : Table) (τ : Int) (hτ : 0 ≤ τ) (fuel n : Nat) (hm : MirrorT t n) (deps : List (List Nat))
    (hdeps : ∀ r ∈ deps, DenseN r ∧ r.length = n) (hflag : ∀ e ∈ bioConsertLoop t τ fuel deps, e.2.2 = true) :
    (∀ e ∈ bioConsertLoop t τ fuel deps,
      DenseN e.1 ∧ e.1.length = n ∧ localOptVec t τ e.1 = true ∧ e.2.1 = scoreVecN t e.1) ∧
    ∀ dep ∈ deps, ∃ e ∈ bioConsertLoop t τ fuel deps, e.2.1 ≤ scoreVecN t dep := by
  simp only [bioConsertLoop, List.forall_mem_map] at hflag ⊢
  have key := fun dep (hdep : dep ∈ deps) =>
    improveOne_spec t τ hτ fuel n hm dep (hdeps dep hdep).1 (hdeps dep hdep).2 _ _ _ rfl (hflag dep hdep)
  refine ⟨fun dep hdep => ?_, fun dep hdep => ⟨_, List.mem_map_of_mem hdep, (key dep hdep).2.2.2.2⟩⟩
  obtain ⟨h1, h2, h3, h4, _⟩ := key dep hdep
  exact ⟨h1, h2, h3, h4⟩

theorem bioRun_out (S : Scheme) (hS : S.Valid) (D : Dataset) (deps : List (List Nat)) (amo : Bool) (τ : Int)
    (hτ : 0 ≤ τ) (fuel : Nat) (hdeps : ∀ r ∈ deps, DenseN r ∧ r.length = (univOf D).length)
    (hflag : ∀ r ∈ (bioConsertRun S D deps amo τ fuel).2, r.2.2 = true) :
    ∀ c ∈ (bioConsertRun S D deps amo τ fuel).1.1, wellFormedRanking (univOf D) c = true ∧
      localOptVec (costMatrix S (getPositions D)) τ (rowOf (univOf D) c) = true ∧
      (bioConsertRun S D deps amo τ fuel).1.2 = some (Spec.kemeny S D c) := by
  intro c hc
  have hne : (bioConsertRun S D deps amo τ fuel).2 ≠ [] := fun e => by
    simp only [bioConsertRun] at e hc
    rw [e] at hc
    cases hc
  obtain ⟨m, h1, _, _, h4, _⟩ := selectBest_spec (univOf D) amo _ hne
  obtain ⟨r, hr, e, rfl⟩ := h4 c hc
  obtain ⟨r1, r2, r3, r4⟩ := (bioLoop_spec _ τ hτ fuel _ (mirror_costMatrix S D) deps hdeps hflag).1 r hr
  obtain ⟨d1, d2⟩ := decodeVec_spec (univOf D) (nodup_univOf D) r.1 r1 r2
  rw [← scoreVecN_rowOf S hS D _ d1, d2, ← r4, e]
  exact ⟨d1, r3, h1⟩

end BioSM
end Corankco
