import Corankco.Lemmas.Sel
import Corankco.Lemmas.Dense
import Corankco.Lemmas.Dataset
import Corankco.Props.C02
/-
  The bridge between vectors of bucket ids and rankings: the row of a well-formed ranking (`Model.rowOf`) scores as the
  ranking (`scoreVecN_rowOf`, from `C02_def` and `C02_sum` of Props/C02), decoding a dense vector (`Model.decodeVec`)
  inverts it (`decodeVec_spec`), `Model.selectBest` keeps the vectors of minimal recorded score (`selectBest_spec`), and
  the default departure rows of BioConsert are the rows of the unified rankings and the all-tied row
  (`mem_departuresDefault`).
-/
namespace Corankco
open Model Spec

theorem dstInit_eq (t : Table) (r : List Nat) : dstInit t r = scoreVecN t r := by
  unfold dstInit scoreVecN scoreVec
  rw [List.length_map]
  apply isum_map_congr
  intro p _
  simp only [sel, getD_map_ofNat]
  simp only [Int.ofNat_eq_natCast, Int.ofNat_lt, gt_iff_lt]

theorem decodeVec_map (univ : List Elem) (f : Elem → Nat) :
    decodeVec univ (univ.map f) =
      (List.range (univ.map f).eraseDups.length).map fun b => univ.filter fun u => f u == b := by
  simp [decodeVec, ← List.map_prod_left_eq_zip, List.filter_map, Function.comp_def]

theorem decodeVec_spec (univ : List Elem) (hu : univ.Nodup) (v : List Nat) (hv : DenseN v)
    (hl : v.length = univ.length) :
    wellFormedRanking univ (decodeVec univ v) = true ∧ rowOf univ (decodeVec univ v) = v := by
  obtain ⟨f, rfl⟩ := exists_map_eq hu hl
  have hnd : (decodeVec univ (univ.map f)).flatten.Nodup := by
    rw [decodeVec_map]
    refine nodup_flatten_map_range _ (fun i => hu.sublist List.filter_sublist) (fun i j e hi hj => ?_) _
    simp only [List.mem_filter, beq_iff_eq] at hi hj
    exact hi.2.symm.trans hj.2
  have hmem : ∀ u (h : u ∈ univ), ∃ hk : f u < (decodeVec univ (univ.map f)).length,
      u ∈ (decodeVec univ (univ.map f))[f u] := by
    intro u h
    simp only [decodeVec_map, List.length_map, List.length_range, List.getElem_map, List.getElem_range,
      List.mem_filter, beq_self_eq_true, and_true]
    exact ⟨(DenseN.lt_eraseDups_length_iff hv).mpr (List.mem_map_of_mem h), h⟩
  constructor
  · rw [wellFormed_iff]
    refine ⟨?_, hnd, ?_, fun u h => ?_⟩
    · intro b hb
      rw [decodeVec_map] at hb
      obtain ⟨k, hk, rfl⟩ := List.mem_map.mp hb
      rw [List.mem_range, DenseN.lt_eraseDups_length_iff hv] at hk
      obtain ⟨u, hu', rfl⟩ := List.mem_map.mp hk
      exact List.ne_nil_of_mem (List.mem_filter.mpr ⟨hu', beq_self_eq_true _⟩)
    · intro x hx
      rw [decodeVec_map] at hx
      obtain ⟨l, hl', hxl⟩ := List.mem_flatten.mp hx
      obtain ⟨k, _, rfl⟩ := List.mem_map.mp hl'
      exact (List.mem_filter.mp hxl).1
    · obtain ⟨hk, hm⟩ := hmem u h
      exact List.mem_flatten.mpr ⟨_, List.getElem_mem hk, hm⟩
  · refine List.map_congr_left fun u h => ?_
    obtain ⟨hk, hm⟩ := hmem u h
    rw [bidIn_of_mem hnd hk hm]
    rfl

theorem selectBest_spec (univ : List Elem) (amo : Bool) (res : List (List Nat × Int × Bool)) (hres : res ≠ []) :
    ∃ m, (selectBest univ amo res).2 = some m ∧ (∀ r ∈ res, m ≤ r.2.1) ∧ (selectBest univ amo res).1 ≠ [] ∧
      (∀ c ∈ (selectBest univ amo res).1, ∃ r ∈ res, r.2.1 = m ∧ c = decodeVec univ r.1) ∧
      (amo = true → (selectBest univ amo res).1.length = 1) := by
  cases res with
  | nil => exact absurd rfl hres
  | cons r0 rest =>
    obtain ⟨i2, i1⟩ := foldl_min_spec (rest.map (·.2.1)) r0.2.1
    rw [List.foldl_map, ← List.map_cons (f := fun r : List Nat × Int × Bool => r.2.1)] at i1 i2
    simp only [selectBest]
    generalize rest.foldl (fun m r => min m r.2.1) r0.2.1 = lowest at i1 i2
    obtain ⟨r1, hr1, e1⟩ := List.mem_map.mp i2
    refine ⟨lowest, rfl, fun r hr => i1 _ (List.mem_map_of_mem hr), ?_⟩
    generalize hb0 : ((r0 :: rest).filter fun r => r.2.1 == lowest).map (·.1) = best
    have hbest : ∀ b, b ∈ best ↔ ∃ r ∈ r0 :: rest, r.2.1 = lowest ∧ r.1 = b := by
      intro b
      rw [← hb0]
      simp only [List.mem_map, List.mem_filter, beq_iff_eq, and_assoc]
    have h1 : r1.1 ∈ best := (hbest _).mpr ⟨r1, hr1, e1, rfl⟩
    cases amo with
    | false =>
      refine ⟨List.ne_nil_of_mem (List.mem_map_of_mem (List.mem_eraseDups.mpr h1)), fun c hc => ?_, nofun⟩
      obtain ⟨b, hb, rfl⟩ := List.mem_map.mp hc
      obtain ⟨r, hr, e, rfl⟩ := (hbest b).mp (List.mem_eraseDups.mp hb)
      exact ⟨r, hr, e, rfl⟩
    | true =>
      obtain ⟨b, hb⟩ := Option.isSome_iff_exists.mp (List.getLast?_isSome.mpr (List.ne_nil_of_mem h1))
      obtain ⟨r, hr, e, rfl⟩ := (hbest b).mp (List.mem_of_getLast? hb)
      simp only [if_true, hb, List.eraseDups_cons, List.filter_nil, List.eraseDups_nil, List.map_cons, List.map_nil]
      exact ⟨nofun, fun c hc => ⟨r, hr, e, List.mem_singleton.mp hc⟩, fun _ => rfl⟩

theorem vecOf_eq_rowOf {univ : List Elem} {c : Ranking} (hw : wellFormedRanking univ c = true) :
    vecOf univ c = (rowOf univ c).map fun v => Int.ofNat v := by
  obtain ⟨_, _, _, w4⟩ := wellFormed_iff.mp hw
  simp only [vecOf, rowOf, List.map_map]
  exact List.map_congr_left fun u hu => (Int.toNat_of_nonneg (bidIn_nonneg (w4 u hu))).symm

theorem scoreVecN_rowOf (S : Scheme) (hS : S.Valid) (D : Dataset) (c : Ranking)
    (hw : wellFormedRanking (univOf D) c = true) :
    scoreVecN (costMatrix S (getPositions D)) (rowOf (univOf D) c) = Spec.kemeny S D c := by
  unfold scoreVecN
  rw [← vecOf_eq_rowOf hw, C02_def S hS D]
  exact C02_sum S hS D c (perm_of_wellFormed (nodup_univOf D) hw)

theorem rowOf_allTied (univ : List Elem) : rowOf univ [univ] = List.replicate univ.length 0 := by
  unfold rowOf
  rw [List.eq_replicate_iff]
  refine ⟨List.length_map _, ?_⟩
  intro b hb
  obtain ⟨x, hx, rfl⟩ := List.mem_map.mp hb
  rw [toNat_bidIn, bIdx_cons_of_mem hx]

theorem mem_departuresDefault {D : Dataset} {row : List Nat} :
    row ∈ departuresDefault D ↔
      (∃ r ∈ unifiedRankings D, rowOf (univOf D) r = row) ∨ row = List.replicate (univOf D).length 0 := by
  simp only [departuresDefault, ite_complete_eq_unified, List.mem_append, List.mem_eraseDups, List.mem_map,
    List.mem_singleton]

theorem departuresDefault_ne_nil (D : Dataset) : departuresDefault D ≠ [] := by
  simp [departuresDefault]

theorem departuresStarters_ne_nil {D : Dataset} {cons : List Ranking} (h : cons ≠ []) :
    departuresStarters D cons ≠ [] := by
  simpa [departuresStarters] using h

end Corankco
