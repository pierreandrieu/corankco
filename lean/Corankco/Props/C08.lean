import Corankco.Lemmas.BioSweep
import Corankco.Lemmas.L4
/-
  C08 — BioConsert stops at a local optimum: when the local search of a departure ranking exits normally, no
  single-element move (into another bucket, or into a new bucket at any position) lowers the score by more than `τ`
  (`C08_run`); and above an explicit fuel bound every local search exits normally (`C08_loop_terminates`).
-/
namespace Corankco
open Model Spec

/-- the cumulative value read from `change` for an existing bucket `j ≠ b` is the score difference of the move -/
theorem C08_delta_change (t : Table) (r : List Nat) (hm : MirrorT t r.length) (hd : DenseN r)
    (x : Nat) (hx : x < r.length) (j : Nat) (hj : j ≤ r.foldl max 0) (hjb : j ≠ r.getD x 0) :
    changeTo (computeDelta t r x).1 (r.getD x 0) j =
      scoreVec t (moveKeys r x (2 * (Int.ofNat j) + 1)) - scoreVecN t r :=
  bio_delta_change t r hm (DenseN.lt_length hd) x hx j hj hjb

/-- same for `add` and a new singleton bucket just before old bucket `p` -/
theorem C08_delta_add (t : Table) (r : List Nat) (hm : MirrorT t r.length) (hd : DenseN r)
    (x : Nat) (hx : x < r.length) (p : Nat) (hp : p ≤ r.foldl max 0 + 1) :
    addTo (computeDelta t r x).2.1 (r.getD x 0) p =
      scoreVec t (moveKeys r x (2 * (Int.ofNat p))) - scoreVecN t r :=
  bio_delta_add t r hm (DenseN.lt_length hd) x hx p hp

/-- the two searches are sound and complete: a reported target is admissible, its cell holds the cumulative
    delta, which is `< -τ`; no target means every admissible target has a cumulative delta `≥ -τ`. -/
theorem C08_search_complete (τ : Int) (hτ : 0 ≤ τ) (b maxId : Nat) (hb : b ≤ maxId) (change add : List Int)
    (hlc : maxId + 1 < change.length) (h0 : change.getD b 0 = 0) (hla : maxId + 2 < add.length) :
    (∀ to change', searchChange τ b change maxId = (some to, change') →
      to ≤ maxId ∧ to ≠ b ∧ change'.getD to 0 = changeTo change b to ∧ changeTo change b to < -τ) ∧
    (∀ change', searchChange τ b change maxId = (none, change') →
      ∀ j, j ≤ maxId → j ≠ b → -τ ≤ changeTo change b j) ∧
    (∀ to add', searchAdd τ b add maxId = (some to, add') →
      to ≤ maxId + 1 ∧ add'.getD to 0 = addTo add b to ∧ addTo add b to < -τ) ∧
    (∀ add', searchAdd τ b add maxId = (none, add') → ∀ p, p ≤ maxId + 1 → -τ ≤ addTo add b p) :=
  -- `addTo add b` is `around add (b + 1)` by definition (`addTo_eq_around`)
  ⟨fun _ _ h => and_assoc.mp ((BioSM.searchChange_spec τ hτ b maxId hb change hlc h0).some h),
   fun _ h j h1 h2 => (BioSM.searchChange_spec τ hτ b maxId hb change hlc h0).none h j ⟨h1, h2⟩,
   fun _ _ h => (BioSM.searchAdd_spec τ b maxId hb add hla).some h,
   fun _ h => (BioSM.searchAdd_spec τ b maxId hb add hla).none h⟩

/-- the two moves: the result is dense, has the same length, orders the elements as the key vector of the move
    does, and its maximum is the updated `max_id_bucket`. -/
theorem C08_moves (r : List Nat) (hd : DenseN r) (x : Nat) (hx : x < r.length) (alone : Bool)
    (ha : alone = true ↔ AloneAt r x) :
    (∀ j, j ≤ r.foldl max 0 → j ≠ r.getD x 0 →
      let r' := changeBucket r x (r.getD x 0) j alone
      DenseN r' ∧ r'.length = r.length ∧
      (∀ i k, i < r.length → k < r.length →
        compare (r'.getD i 0) (r'.getD k 0) =
          compare ((moveKeys r x (2 * (Int.ofNat j) + 1)).getD i 0)
            ((moveKeys r x (2 * (Int.ofNat j) + 1)).getD k 0)) ∧
      r'.foldl max 0 = (if alone then r.foldl max 0 - 1 else r.foldl max 0)) ∧
    (∀ p, p ≤ r.foldl max 0 + 1 →
      let r' := addBucket r x (r.getD x 0) p alone
      DenseN r' ∧ r'.length = r.length ∧
      (∀ i k, i < r.length → k < r.length →
        compare (r'.getD i 0) (r'.getD k 0) =
          compare ((moveKeys r x (2 * (Int.ofNat p))).getD i 0) ((moveKeys r x (2 * (Int.ofNat p))).getD k 0)) ∧
      r'.foldl max 0 = (if alone then r.foldl max 0 else r.foldl max 0 + 1)) :=
  ⟨fun j hj hjb => bio_changeBucket r hd x hx j hj hjb alone ha,
   fun p hp => bio_addBucket r hd x hx p hp alone ha⟩

/-- one step of a sweep preserves: density, length, maxId = max r, and the running delta tracks the score;
    every accepted move strictly decreases the score by more than τ -/
theorem C08_sweepStep_inv (t : Table) (τ : Int) (hτ : 0 ≤ τ) (st : SweepSt) (x : Nat)
    (hm : MirrorT t st.r.length) (hd : DenseN st.r) (hx : x < st.r.length) (hmax : st.maxId = st.r.foldl max 0) :
    let st' := sweepStep t τ st x
    DenseN st'.r ∧ st'.r.length = st.r.length ∧ st'.maxId = st'.r.foldl max 0 ∧
    scoreVecN t st'.r - scoreVecN t st.r = st'.delta - st.delta ∧
    (st'.r ≠ st.r → st'.delta - st.delta < -τ) ∧
    (st'.moved = st.moved ∨ st'.moved = true) ∧
    (st'.r = st.r ∧ st'.delta = st.delta ∧ st'.moved = st.moved ∨ st'.moved = true) := by
  rcases BioSM.sweepStep_spec t τ hτ st x hm hd hx hmax with ⟨e, _⟩ | ⟨s1, s2, s3, s4, s5, s6⟩
  · rw [e]
    exact ⟨hd, rfl, hmax, (Int.sub_self _).trans (Int.sub_self _).symm, absurd rfl, Or.inl rfl, Or.inl ⟨rfl, rfl, rfl⟩⟩
  · exact ⟨s2, s3, s4, by omega, fun _ => Int.sub_left_lt_of_lt_add s6, Or.inr s1, Or.inr s1⟩

/-- if a step makes no move then no single-element move of x improves by more than τ -/
theorem C08_sweepStep_nomove (t : Table) (τ : Int) (hτ : 0 ≤ τ) (st : SweepSt) (x : Nat)
    (hm : MirrorT t st.r.length) (hd : DenseN st.r) (hx : x < st.r.length) (hmax : st.maxId = st.r.foldl max 0)
    (hno : (sweepStep t τ { st with moved := false } x).moved = false) :
    (∀ j, j ≤ st.r.foldl max 0 → j ≠ st.r.getD x 0 →
        scoreVecN t st.r - τ ≤ scoreVec t (moveKeys st.r x (2 * (Int.ofNat j) + 1))) ∧
    (∀ p, p ≤ st.r.foldl max 0 + 1 →
        scoreVecN t st.r - τ ≤ scoreVec t (moveKeys st.r x (2 * (Int.ofNat p)))) := by
  rcases BioSM.sweepStep_spec t τ hτ { st with moved := false } x hm hd hx hmax with ⟨_, hn⟩ | ⟨s1, _⟩
  · exact hn
  · rw [s1] at hno; cases hno

/-- C08 for one departure ranking: when the loop exits normally the final vector is dense, a local optimum, its
    score is the initial score plus the returned delta, and the delta is ≤ 0 (C09: never worse than the start) -/
theorem C08_improveOne (t : Table) (τ : Int) (hτ : 0 ≤ τ) (fuel : Nat) (r : List Nat)
    (hm : MirrorT t r.length) (hd : DenseN r) (r' : List Nat) (d : Int)
    (h : improveOne t τ fuel r = (r', d, true)) :
    DenseN r' ∧ r'.length = r.length ∧ localOptVec t τ r' = true ∧
    scoreVecN t r' = scoreVecN t r + d ∧ d ≤ 0 := by
  obtain ⟨h1, h2, h3, h4, h5⟩ := (BioSM.improveLoop_spec t τ hτ fuel r _ 0 hm hd rfl r' d true h).2 rfl
  exact ⟨h1, h2, h3, Int.sub_eq_iff_eq_add.mp (h4.trans (Int.sub_zero _)), h5⟩

/-- the initial score computed by the driver loop is the score of the departure vector -/
theorem C04_dstInit (t : Table) (r : List Nat) : dstInit t r = scoreVecN t r := dstInit_eq t r

/-- the whole loop: every result flagged `true` is a dense local optimum whose recorded score is its true score and
    is at most the score of its departure ranking -/
theorem C08_bioConsertLoop (t : Table) (τ : Int) (hτ : 0 ≤ τ) (fuel : Nat) (deps : List (List Nat))
    (n : Nat) (hm : MirrorT t n) (hdeps : ∀ r ∈ deps, DenseN r ∧ r.length = n) :
    let res := bioConsertLoop t τ fuel deps
    res.length = deps.length ∧
    ∀ i, i < deps.length → (res.getD i ([], 0, false)).2.2 = true →
      let ri := res.getD i ([], 0, false)
      DenseN ri.1 ∧ ri.1.length = n ∧ localOptVec t τ ri.1 = true ∧
      ri.2.1 = scoreVecN t ri.1 ∧ ri.2.1 ≤ scoreVecN t (deps.getD i []) := by
  intro res
  refine ⟨List.length_map _, fun i hi => ?_⟩
  simp only [res, bioConsertLoop]
  rw [getD_map_of_lt hi, getD_of_lt hi]
  obtain ⟨hdi, hli⟩ := hdeps deps[i] (List.getElem_mem hi)
  exact BioSM.improveOne_spec t τ hτ fuel n hm deps[i] hdi hli _ _ _ rfl

/-- decoding a dense vector gives a well-formed ranking over the universe whose row is the vector
    (`_hne` is not needed) -/
theorem C03_decodeVec (univ : List Elem) (hu : univ.Nodup) (v : List Nat) (hv : DenseN v) (hl : v.length = univ.length)
    (_hne : univ ≠ []) :
    wellFormedRanking univ (decodeVec univ v) = true ∧ rowOf univ (decodeVec univ v) = v :=
  decodeVec_spec univ hu v hv hl

/-- every result of the run on a dataset, when all loops exited normally: a dense local optimum of the right
    length whose recorded score is its score. -/
theorem C08_run_results (S : Scheme) (D : Dataset) (deps : List (List Nat)) (amo : Bool) (τ : Int) (hτ : 0 ≤ τ)
    (fuel : Nat) (hdeps : ∀ r ∈ deps, DenseN r ∧ r.length = (univOf D).length)
    (hflag : ∀ r ∈ (bioConsertRun S D deps amo τ fuel).2, r.2.2 = true) :
    ∀ r ∈ (bioConsertRun S D deps amo τ fuel).2,
      DenseN r.1 ∧ r.1.length = (univOf D).length ∧
      localOptVec (costMatrix S (getPositions D)) τ r.1 = true ∧
      r.2.1 = scoreVecN (costMatrix S (getPositions D)) r.1 :=
  (BioSM.bioLoop_spec _ τ hτ fuel _ (mirror_costMatrix S D) deps hdeps hflag).1

/-- C08 on a dataset: when every loop exited normally, every returned ranking is well formed and is a local optimum
    for the table of the definition (`specTable`). -/
theorem C08_run (S : Scheme) (hS : S.Valid) (D : Dataset) (deps : List (List Nat)) (amo : Bool) (τ : Int)
    (hτ : 0 ≤ τ) (fuel : Nat) (hdeps : ∀ r ∈ deps, DenseN r ∧ r.length = (univOf D).length)
    (hflag : ∀ r ∈ (bioConsertRun S D deps amo τ fuel).2, r.2.2 = true) :
    (∀ c ∈ (bioConsertRun S D deps amo τ fuel).1.1,
      wellFormedRanking (univOf D) c = true ∧ localOptVec (specTable S D) τ (rowOf (univOf D) c) = true) ∧
    Spec.C08.holds S D τ (bioConsertRun S D deps amo τ fuel).1.1 = true := by
  refine (fun key => ⟨key, by simpa only [Spec.C08.holds, List.all_eq_true, Bool.and_eq_true] using key⟩) fun c hc => ?_
  obtain ⟨hw, hl, _⟩ := BioSM.bioRun_out S hS D deps amo τ hτ fuel hdeps hflag c hc
  rw [← C02_def S hS D]
  exact ⟨hw, hl⟩

/-- termination: the loop exits normally as soon as the fuel exceeds the distance of the start score to the lower bound
    `L4.lower` of all scores -/
theorem C08_terminates (t : Table) (τ : Int) (hτ : 0 ≤ τ) (r : List Nat) (hm : MirrorT t r.length) (hd : DenseN r)
    (fuel : Nat) (hf : (scoreVecN t r - L4.lower t r.length).toNat + 1 ≤ fuel) :
    (improveOne t τ fuel r).2.2 = true :=
  (BioSM.improveLoop_spec t τ hτ fuel r _ 0 hm hd rfl _ _ _ rfl).1 (Int.lt_of_toNat_lt hf)

/-- fuel independence: once the loop exits normally, more fuel gives the same result -/
theorem C08_fuel_mono (t : Table) (τ : Int) (fuel fuel' : Nat) (r : List Nat) (h : fuel ≤ fuel')
    (hok : (improveOne t τ fuel r).2.2 = true) : improveOne t τ fuel' r = improveOne t τ fuel r :=
  BioSM.improveLoop_mono t τ fuel fuel' r _ 0 h hok

/-- the whole loop with an explicit fuel: any fuel above the bound of every departure vector makes every loop
    exit normally -/
theorem C08_loop_terminates (t : Table) (τ : Int) (hτ : 0 ≤ τ) (n : Nat) (hm : MirrorT t n) (deps : List (List Nat))
    (hdeps : ∀ r ∈ deps, DenseN r ∧ r.length = n) (fuel : Nat)
    (hf : ∀ r ∈ deps, (scoreVecN t r - L4.lower t n).toNat + 1 ≤ fuel) :
    ∀ x ∈ bioConsertLoop t τ fuel deps, x.2.2 = true := by
  simp only [bioConsertLoop, List.forall_mem_map]
  exact fun r hr => C08_terminates t τ hτ r ((hdeps r hr).2 ▸ hm) (hdeps r hr).1 fuel ((hdeps r hr).2 ▸ hf r hr)

/-- hence there is a fuel above which every loop exits normally, on dense departure rows -/
theorem C08_run_terminates (t : Table) (τ : Int) (hτ : 0 ≤ τ) (n : Nat) (hm : MirrorT t n) (deps : List (List Nat))
    (hdeps : ∀ r ∈ deps, DenseN r ∧ r.length = n) :
    ∃ fuel, ∀ fuel', fuel ≤ fuel' → ∀ x ∈ bioConsertLoop t τ fuel' deps, x.2.2 = true :=
  eventually_of_bound (C08_loop_terminates t τ hτ n hm deps hdeps)

end Corankco
