import Corankco.Lemmas.Basic
import Corankco.Spec.Partition
import Corankco.Spec.Bio
/-
  The pairwise-score layer: the cost `sel t v i j` a key vector pays for a pair is a function of the table entry and of
  the ORDERING of the two keys (`sel_eq`), so everything that preserves comparisons preserves scores, and a
  lexicographic pair of keys (`lex`) is read off `Ordering.then` (`compare_lex`).
-/
namespace Corankco
open Model Spec

def costAt (c : Cost) : Ordering → Int
  | .lt => c.1
  | .gt => c.2.1
  | .eq => c.2.2

theorem sel_eq (t : Table) (v : List Int) (i j : Nat) :
    sel t v i j = costAt (t.get i j) (compare (v.getD i 0) (v.getD j 0)) := by
  rw [Int.compare_eq_ite_lt, apply_ite (costAt _), apply_ite (costAt _)]
  rfl

theorem sel_of_lt {t : Table} {v : List Int} {i j : Nat} (h : v.getD i 0 < v.getD j 0) : sel t v i j = t.bef i j := by
  rw [sel_eq, Int.compare_eq_lt.mpr h]
  rfl

theorem sel_of_eq {t : Table} {v : List Int} {i j : Nat} (h : v.getD i 0 = v.getD j 0) : sel t v i j = t.tie i j := by
  rw [sel_eq, Int.compare_eq_eq.mpr h]
  rfl

theorem sel_of_gt {t : Table} {v : List Int} {i j : Nat} (h : v.getD j 0 < v.getD i 0) : sel t v i j = t.aft i j := by
  rw [sel_eq, Int.compare_eq_gt.mpr h]
  rfl

theorem lt_of_sel_eq_bef {t : Table} {v : List Int} {i j : Nat} (h : sel t v i j = t.bef i j)
    (h1 : t.bef i j < t.aft i j) (h2 : t.bef i j < t.tie i j) : v.getD i 0 < v.getD j 0 := by
  rcases Int.lt_trichotomy (v.getD i 0) (v.getD j 0) with hlt | heq | hgt
  · exact hlt
  · exact absurd ((sel_of_eq heq).symm.trans h) (Int.ne_of_gt h2)
  · exact absurd ((sel_of_gt hgt).symm.trans h) (Int.ne_of_gt h1)

theorem le_sel (t : Table) (v : List Int) (i j : Nat) {m : Int}
    (h1 : m ≤ t.bef i j) (h2 : m ≤ t.aft i j) (h3 : m ≤ t.tie i j) : m ≤ sel t v i j :=
  iteInduction (fun _ => h1) fun _ => iteInduction (fun _ => h2) fun _ => h3

theorem sel_mirror {t : Table} {n : Nat} (hm : MirrorT t n) (v : List Int) {i j : Nat} (hi : i < n) (hj : j < n) :
    sel t v i j = sel t v j i := by
  obtain ⟨h1, h2⟩ := hm i j hi hj
  obtain ⟨h3, _⟩ := hm j i hj hi
  rw [sel_eq, sel_eq, ← Int.compare_swap (v.getD i 0)]
  cases compare (v.getD i 0) (v.getD j 0)
  · exact h1
  · exact h2
  · exact h3.symm

theorem scoreIds_congr (t : Table) (ids : List Nat) (v w : List Int)
    (h : ∀ i ∈ ids, ∀ j ∈ ids, compare (v.getD i 0) (v.getD j 0) = compare (w.getD i 0) (w.getD j 0)) :
    scoreIds t ids v = scoreIds t ids w := by
  unfold scoreIds
  apply isum_map_congr
  intro p hp
  obtain ⟨h1, h2⟩ := mem_pairs p hp
  rw [sel_eq, sel_eq, h _ h1 _ h2]

theorem optimalOn_congr (t : Table) (ids : List Nat) (v w : List Int) (hl : v.length = w.length)
    (h : ∀ i ∈ ids, ∀ j ∈ ids, compare (v.getD i 0) (v.getD j 0) = compare (w.getD i 0) (w.getD j 0))
    (hv : OptimalOn t ids v) : OptimalOn t ids w := by
  intro u hu
  rw [← scoreIds_congr t ids v w h]
  exact hv u (hu.trans hl.symm)

theorem scoreIds_perm {t : Table} {n : Nat} (hm : MirrorT t n) (v : List Int) {l₁ l₂ : List Nat} (h : l₁.Perm l₂)
    (hl : ∀ i ∈ l₁, i < n) : scoreIds t l₁ v = scoreIds t l₂ v :=
  isum_pairs_perm (sel t v) h fun i hi j hj => sel_mirror hm v (hl i hi) (hl j hj)

theorem scoreVec_eq_scoreIds (t : Table) (v : List Int) : scoreVec t v = scoreIds t (List.range v.length) v := rfl

theorem scoreVec_congr (t : Table) (v w : List Int) (hl : v.length = w.length)
    (h : ∀ i j, i < v.length → j < v.length →
      compare (v.getD i 0) (v.getD j 0) = compare (w.getD i 0) (w.getD j 0)) :
    scoreVec t v = scoreVec t w := by
  rw [scoreVec_eq_scoreIds, scoreVec_eq_scoreIds, ← hl]
  exact scoreIds_congr t _ v w fun i hi j hj => h i j (List.mem_range.mp hi) (List.mem_range.mp hj)

/-- keys `(a i, b i)`, `i < n`, in lexicographic order; `K` exceeds every difference of two `b`. -/
def lex (K : Int) (a b : Nat → Int) (n : Nat) : List Int := (List.range n).map fun i => a i * K + b i

@[simp] theorem lex_length (K : Int) (a b : Nat → Int) (n : Nat) : (lex K a b n).length = n := by
  simp [lex]

theorem compare_lex {K : Int} {a b : Nat → Int} {n : Nat} (hK : ∀ i j, i < n → j < n → b i - b j < K)
    (i j : Nat) (hi : i < n) (hj : j < n) :
    compare ((lex K a b n).getD i 0) ((lex K a b n).getD j 0) = (compare (a i) (a j)).then (compare (b i) (b j)) := by
  rw [lex, getD_range_map hi, getD_range_map hj]
  exact compare_lex_int (hK i j hi hj) (hK j i hj hi)

theorem sel_lex (t : Table) {K : Int} {a b : Nat → Int} {n : Nat} (hK : ∀ i j, i < n → j < n → b i - b j < K)
    (i j : Nat) (hi : i < n) (hj : j < n) :
    sel t (lex K a b n) i j = costAt (t.get i j) ((compare (a i) (a j)).then (compare (b i) (b j))) := by
  rw [sel_eq, compare_lex hK i j hi hj]

theorem lex_ne {K : Int} {a b : Nat → Int} {n : Nat} (hK : ∀ i j, i < n → j < n → b i - b j < K)
    (i j : Nat) (hi : i < n) (hj : j < n) (hb : b i ≠ b j) : (lex K a b n).getD i 0 ≠ (lex K a b n).getD j 0 := by
  intro e
  have := Int.compare_eq_eq.mpr e
  rw [compare_lex hK i j hi hj, Ordering.then_eq_eq] at this
  exact hb (Int.compare_eq_eq.mp this.2)

end Corankco
