import Corankco.Lemmas.C12
import Corankco.Lemmas.Invariance
/-
  C12 — Borda: refusal and the consensus by increasing mean score (`C12_holds`); the consensus under a permutation of
  the input rankings (`C12_perm`) and under an injective renaming of the elements (`C12_rename`), each with the
  statement that the input is accepted or refused alike.
-/
namespace Corankco
open Model

/-- Borda refuses exactly incomplete data under a scheme outside the four families; otherwise the consensus is well
    formed over the universe and orders it by increasing mean positional score, tied exactly on equal means (score by
    bucket size or bucket id; unranked elements form one last bucket under a unifying scheme, are skipped otherwise). -/
theorem C12_holds (useBid : Bool) (S : Scheme) (D : Dataset) (hD : ∀ r ∈ D, r.flatten.Nodup) :
    Spec.C12.holds useBid S D (match borda useBid S D with | .ok r => some r | .error _ => none) = true := by
  rw [C12.borda_eq]
  unfold Spec.C12.holds
  by_cases hacc : (isComplete D || Spec.isUnifyingFamily S || Spec.isInducedFamily S) = true
  · rw [if_pos hacc]
    simp only [hacc, Bool.true_and]
    apply C12.bordaOut_ordersBy useBid S D hD
    intro x hx
    rw [lookup_map_self hx]
    rfl
  · rw [if_neg hacc]
    simp only [hacc, Bool.not_false]

/-- Permuting the dataset does not change the relative placement of any two elements in the Borda consensus. -/
theorem C12_perm (useBid : Bool) (S : Scheme) (D D' : Dataset) (hD : ∀ r ∈ D, r.flatten.Nodup) (hp : D.Perm D')
    (r r' : Ranking) (h : borda useBid S D = .ok r) (h' : borda useBid S D' = .ok r') :
    ∀ x ∈ univOf D, ∀ y ∈ univOf D, Spec.cmpIn r x y = Spec.cmpIn r' x y := by
  have hD' : ∀ r ∈ D', r.flatten.Nodup := fun r hr => hD r (hp.mem_iff.mpr hr)
  rw [C12.borda_ok h, C12.borda_ok h']
  exact SortGroup.cmpIn_congr (C12.bordaOut_ordersBy useBid S D hD _ fun _ _ => rfl)
    (C12.bordaOut_ordersBy useBid S D' hD' _ fun _ _ => rfl) id (fun _ => (C12.univOf_perm D D' hp).mem_iff.mp)
    fun x y => by simp only [id, C12.bordaSumCount_bordaRs_perm useBid S D D' hp]

/-- Borda accepts or refuses a dataset and its permutations alike. -/
theorem C12_perm_refusal (useBid : Bool) (S : Scheme) (D D' : Dataset) (hp : D.Perm D') :
    (borda useBid S D).isOk = (borda useBid S D').isOk := by
  rw [C12.borda_isOk, C12.borda_isOk, C12.isComplete_perm D D' hp]

/-- An accepted incomplete dataset with a tie, under a unifying-family scheme: element `0`, unranked in the second
    ranking, is credited its last bucket there, and the consensus ties `0` and `2` on equal means 2/2. `D'` is `D` in
    another order. -/
example :
    let S : Scheme := unifyingHalf
    let D : Dataset := [[[0, 1], [2]], [[2], [1]]]
    let D' : Dataset := [[[2], [1]], [[0, 1], [2]]]
    (∀ r ∈ D, r.flatten.Nodup) ∧ isComplete D = false ∧ Spec.isUnifyingFamily S = true ∧
      unifiedRankings D = [[[0, 1], [2]], [[2], [1], [0]]] ∧
      borda false S D = .ok [[1], [0, 2]] ∧ borda false S D' = .ok [[1], [2, 0]] ∧ D.Perm D' := by
  decide +kernel

/-- The same dataset is refused under the pseudo-distance scheme, which belongs to none of the four families, as the
    specification asks. -/
example :
    let D : Dataset := [[[0, 1], [2]], [[2], [1]]]
    borda false pseudo D = .error .schemeNotHandled ∧ Spec.C12.holds false pseudo D none = true ∧
      Spec.C12.holds false pseudo D (some [[1], [0, 2]]) = false := by
  decide +kernel

open Spec

/-- The Borda consensus of the renamed dataset places the renamed elements as the consensus of the original dataset
    places the original ones. -/
theorem C12_rename (useBid : Bool) (S : Scheme) (D : Dataset) (hD : ∀ r ∈ D, r.flatten.Nodup)
    (f : Elem → Elem) (hf : Function.Injective f) (r r' : Ranking)
    (h : borda useBid S D = .ok r) (h' : borda useBid S (D.map fun q => q.map fun b => b.map f) = .ok r') :
    ∀ x ∈ univOf D, ∀ y ∈ univOf D, cmpIn r x y = cmpIn r' (f x) (f y) := by
  rw [C12.borda_ok h, C12.borda_ok h']
  exact SortGroup.cmpIn_congr (C12.bordaOut_ordersBy useBid S D hD _ fun _ _ => rfl)
    (C12.bordaOut_ordersBy useBid S _ (Invariance.nodup_rename hf D hD) _ fun _ _ => rfl) f
    (fun x => (Invariance.mem_univOf_rename hf D x).mpr)
    fun x y => by simp only [C12.bordaRs_rename hf, Invariance.bordaSumCount_rename hf]

/-- Borda accepts or refuses a dataset and its renamings alike. -/
theorem C12_rename_refusal (useBid : Bool) (S : Scheme) (D : Dataset)
    (f : Elem → Elem) (hf : Function.Injective f) :
    (borda useBid S (D.map fun q => q.map fun b => b.map f)).isOk = (borda useBid S D).isOk := by
  rw [C12.borda_isOk, C12.borda_isOk, Invariance.isComplete_rename hf]

/-- The same dataset renamed by `x ↦ 10 - x` (order-reversing, so that nothing depends on the order of the names). -/
example :
    let S : Scheme := unifyingHalf
    let D : Dataset := [[[0, 1], [2]], [[2], [1]]]
    let f : Elem → Elem := fun x => 10 - x
    borda false S D = .ok [[1], [0, 2]] ∧
      borda false S (D.map fun q => q.map fun b => b.map f) = .ok [[9], [10, 8]] := by
  decide +kernel

end Corankco
