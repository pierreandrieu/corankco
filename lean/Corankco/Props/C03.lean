import Corankco.Props.C05
import Corankco.Props.C06
import Corankco.Props.C09
import Corankco.Props.C10
import Corankco.Props.C11
import Corankco.Props.C12
import Corankco.Props.C13
/-
  C03 — every algorithm returns a well-formed consensus over exactly the universe: at least one ranking (exactly one
  when at most one is asked for), each a sequence of non-empty, pairwise disjoint buckets whose union is exactly the
  set of elements of the dataset.
-/
namespace Corankco
open Model Spec

/-- ids → elements: a partition of the ids `0..n-1` read through the id map `univ.getD · 0` is a well-formed ranking
    over `univ` -/
theorem C03_ids_to_elems (univ : List Elem) (hu : univ.Nodup) (c : List (List Nat))
    (hp : isPartitionOf univ.length c = true) :
    wellFormedRanking univ (c.map fun b => b.map fun i => univ.getD i 0) = true :=
  L4.wellFormed_map_getD hu hp

/-- Borda (both variants), whenever it accepts the input -/
theorem C03_borda (useBid : Bool) (S : Scheme) (D : Dataset) (hD : ∀ r ∈ D, r.flatten.Nodup) (r : Ranking)
    (h : borda useBid S D = .ok r) (amo : Bool) : C03.holds D amo [r] = true := by
  rw [C12.borda_ok h]
  exact C03.holds_single D amo _ (SortGroup.wellFormed_of_ordersBy (C12.bordaOut_ordersBy useBid S D hD _ fun _ _ => rfl))

/-- Copeland -/
theorem C03_copeland (S : Scheme) (hS : S.Valid) (D : Dataset) (amo : Bool) :
    C03.holds D amo [(copeland S D).1] = true := by
  exact C03.holds_single D amo _ (SortGroup.wellFormed_of_ordersBy (C13.copeland_ordersBy S hS D _ fun _ _ => rfl))

/-- KwikSort, for EVERY pivot script -/
theorem C03_kwiksort (S : Scheme) (D : Dataset) (order : List Nat)
    (horder : order.Perm (List.range (univOf D).length)) (script : List Nat) (amo : Bool) :
    C03.holds D amo [(kwikSortDataset S D order script).1] = true :=
  C03.holds_single D amo _ (kwikSortDataset_wellFormed S D order horder script)

/-- PickAPerm, whenever it accepts the input: the returned rankings are (unified) input rankings, which are well
    formed as soon as the input buckets are non-empty and pairwise disjoint -/
theorem C03_pickaperm (amo : Bool) (S : Scheme) (hS : S.Valid) (D : Dataset) (hne : D ≠ [])
    (hD : ∀ r ∈ D, r.flatten.Nodup) (hDne : ∀ r ∈ D, ∀ b ∈ r, b ≠ []) (out : List Ranking) (sc : Option Int)
    (h : pickAPerm amo S D = .ok (out, sc)) : C03.holds D amo out = true := by
  obtain ⟨hne', hmem, h1⟩ := C10.pickAPerm_ok hS hne hD h
  exact C03.holds_of D amo out hne' h1 fun c hc => C10.wellFormed_inputs D hD hDne c (hmem c hc)

/-- BioConsert / BioCo, with or without starting algorithms: the departure rows are a parameter, any dense rows of the
    right length, and every loop is assumed to have exited normally.  A non-empty universe is not needed. -/
theorem C03_bioconsert (S : Scheme) (hS : S.Valid) (D : Dataset) (deps : List (List Nat)) (hdeps : deps ≠ [])
    (hd : ∀ r ∈ deps, DenseN r ∧ r.length = (univOf D).length) (amo : Bool) (τ : Int) (hτ : 0 ≤ τ) (fuel : Nat)
    (hfl : ∀ r ∈ (bioConsertRun S D deps amo τ fuel).2, r.2.2 = true) :
    C03.holds D amo (bioConsertRun S D deps amo τ fuel).1.1 = true := by
  obtain ⟨_, _, hne, h1, _⟩ := C04_bioconsert S hS D deps amo τ hτ fuel hdeps hd hfl
  have hw := (C08_run S hS D deps amo τ hτ fuel hd hfl).1
  exact C03.holds_of D amo _ hne h1 (fun c hc => (hw c hc).1)

/-- BioConsert with its default departure rows on a well-formed input dataset -/
theorem C03_bioconsert_default (S : Scheme) (hS : S.Valid) (D : Dataset)
    (hD : ∀ r ∈ D, r.flatten.Nodup) (hDne : ∀ r ∈ D, ∀ b ∈ r, b ≠ []) (amo : Bool) (τ : Int) (hτ : 0 ≤ τ)
    (fuel : Nat)
    (hfl : ∀ r ∈ (bioConsertRun S D (departuresDefault D) amo τ fuel).2, r.2.2 = true) :
    C03.holds D amo (bioConsertRun S D (departuresDefault D) amo τ fuel).1.1 = true :=
  C03_bioconsert S hS D (departuresDefault D) (departuresDefault_ne_nil D)
    (C09_departuresDefault_dense D fun r hr => ⟨hDne r hr, hD r hr⟩) amo τ hτ fuel hfl

/-- BioConsert started from the consensuses of other algorithms (each of which satisfies C03) -/
theorem C03_bioconsert_starters (S : Scheme) (hS : S.Valid) (D : Dataset) (cons : List Ranking) (hcons : cons ≠ [])
    (hc : ∀ c ∈ cons, wellFormedRanking (univOf D) c = true) (amo : Bool) (τ : Int) (hτ : 0 ≤ τ) (fuel : Nat)
    (hfl : ∀ r ∈ (bioConsertRun S D (departuresStarters D cons) amo τ fuel).2, r.2.2 = true) :
    C03.holds D amo (bioConsertRun S D (departuresStarters D cons) amo τ fuel).1.1 = true :=
  C03_bioconsert S hS D (departuresStarters D cons) (departuresStarters_ne_nil hcons)
    (C09_departuresStarters_dense D cons hc) amo τ hτ fuel hfl

/-- exact algorithms: whatever feasible 0/1 point the solver returns, the decoded consensus is well formed -/
theorem C03_decode (D : Dataset) (hu : univOf D ≠ []) (a : Asg)
    (h : feasible a (univOf D).length (binaryRows (univOf D).length ++ transRows (univOf D).length) = true)
    (amo : Bool) :
    C03.holds D amo [(decode a (univOf D).length).map fun b => b.map fun i => (univOf D).getD i 0] = true := by
  have hn : 0 < (univOf D).length := List.length_pos_iff.mpr hu
  exact C03.holds_single D amo _
    (C03_ids_to_elems (univOf D) (nodup_univOf D) _ (C05_decode (univOf D).length hn a h).1)

/-- ParCons (and the optimised exact algorithm, which has the same shape): whatever rankings of their component the
    sub-solvers return -/
theorem C03_parcons (D : Dataset) (t : Table) (comps : List (List Nat))
    (hp : isPartitionOf (univOf D).length comps = true)
    (bound : Nat) (exact aux : List Nat → List (List Nat))
    (hex : ∀ c ∈ comps, SolvesComp c (exact c)) (haux : ∀ c ∈ comps, SolvesComp c (aux c)) (amo : Bool) :
    C03.holds D amo
      [(parCons t comps bound exact aux).consensus.map fun b => b.map fun i => (univOf D).getD i 0] = true :=
  C03.holds_single D amo _
    (C03_ids_to_elems (univOf D) (nodup_univOf D) _
      (C06_respects t (univOf D).length comps hp bound exact aux hex haux).1)

/-- `hDne` is needed for PickAPerm: an input ranking with an empty bucket is returned as is -/
example :
    let D : Dataset := [[[], [0]]]
    unifying.Valid ∧ D ≠ [] ∧ (∀ r ∈ D, r.flatten.Nodup) ∧
    pickAPerm false unifying D = .ok ([[[], [0]]], some 0) ∧ C03.holds D false [[[], [0]]] = false := by
  dsimp only
  rw [C10.pickAPerm_eq unifying_valid (by decide +kernel)]
  decide +kernel

/-- a non-empty universe is needed for the ILP decoder: on zero ids it returns one empty bucket -/
example : feasible (asgOfVec []) 0 (binaryRows 0 ++ transRows 0) = true ∧ decode (asgOfVec []) 0 = [[]] ∧
    C03.holds [] true [([[]] : List (List Nat)).map fun b => b.map fun i => (univOf []).getD i 0] = false := by
  decide +kernel

/-- the predicate distinguishes: a missing element, a repeated element, an empty bucket, a foreign element, no
    ranking, two rankings when at most one is asked for -/
example :
    let D : Dataset := [[[0, 1], [2]], [[2], [0]]]
    C03.holds D true [[[2], [0, 1]]] = true ∧ C03.holds D false [[[2], [0, 1]], [[0], [1], [2]]] = true ∧
    C03.holds D true [[[2], [0]]] = false ∧ C03.holds D true [[[2], [0, 1], [2]]] = false ∧
    C03.holds D true [[[2], [], [0, 1]]] = false ∧ C03.holds D true [[[2], [0, 1, 3]]] = false ∧
    C03.holds D false [] = false ∧ C03.holds D true [[[2], [0, 1]], [[0], [1], [2]]] = false := by
  decide +kernel

/-- the hypotheses of the dataset-level theorems are satisfiable together: an incomplete dataset with a tie -/
example :
    let S : Scheme := unifying
    let D : Dataset := [[[0, 1], [2]], [[2], [0]]]
    S.Valid ∧ D ≠ [] ∧ (∀ r ∈ D, r.flatten.Nodup) ∧ (∀ r ∈ D, ∀ b ∈ r, b ≠ []) ∧ univOf D ≠ [] ∧
    (borda false S D).isOk = true ∧ (pickAPerm true S D).isOk = true ∧
    [1, 2, 0].Perm (List.range (univOf D).length) ∧
    (∀ r ∈ (bioConsertRun S D (departuresDefault D) false 0 5).2, r.2.2 = true) ∧
    feasible (asgOfVec [1, 0, 1]) 3 (binaryRows 3 ++ transRows 3) = true ∧
    isPartitionOf (univOf D).length [[2], [0, 1]] = true := by
  dsimp only
  rw [C10.pickAPerm_eq unifying_valid (by decide +kernel)]
  decide +kernel

end Corankco
