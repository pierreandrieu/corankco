import Corankco.Lemmas.BioArr
import Corankco.Lemmas.BioMove
/-
  The delta arrays of BioConsert (`computeDelta`): the sums that the two searches read from `change` / `add`, from the
  place of the moved element `x` to a target, are `score(after the move) - score(before)` (`computeDelta_spec`).
  A move of `x` only changes the pairs with `x`, all read from row `x` of the table by the mirror law
  (`scoreVec_moveKeys_sub`); as a function of the target of `x`, the cost of the pair `x, y` is a constant plus two
  steps, to `tie` at the bucket of `y` and to `aft` just after it (`sel_join`, `sel_new`); a point write adds a step to
  the sums around the gap, so each `y` of the loop adds to every sum what the move changes for its pair.
-/
namespace Corankco
open Model Spec BioSM

theorem scoreVec_moveKeys_sub (t : Table) (r : List Nat) (hm : MirrorT t r.length) (x : Nat) (hx : x < r.length)
    (k k' : Int) :
    isum ((List.range r.length).map fun y => sel t (moveKeys r x k') x y - sel t (moveKeys r x k) x y) =
      scoreVec t (moveKeys r x k') - scoreVec t (moveKeys r x k) := by
  have hp := List.perm_cons_erase (List.mem_range.mpr hx)
  have hrow : ∀ K, scoreVec t (moveKeys r x K) =
      isum (((List.range r.length).erase x).map fun y => sel t (moveKeys r x K) x y) +
        scoreIds t ((List.range r.length).erase x) (moveKeys r x K) := by
    intro K
    -- with the mirror law the pairs can be summed with `x` in front
    rw [scoreVec_eq_scoreIds, length_moveKeys, scoreIds_perm hm _ hp fun i hi => List.mem_range.mp hi]
    simp [scoreIds, isum_append, List.map_map, Function.comp_def]
  have hrest : scoreIds t ((List.range r.length).erase x) (moveKeys r x k') =
      scoreIds t ((List.range r.length).erase x) (moveKeys r x k) := by
    apply scoreIds_congr
    intro i hi j hj
    rw [List.Nodup.mem_erase_iff List.nodup_range, List.mem_range] at hi hj
    simp only [getD_moveKeys hi.2, getD_moveKeys hj.2, if_neg hi.1, if_neg hj.1]
  -- the pair `x, x` costs `tie x x` under both key vectors
  rw [hrow, hrow, hrest, Int.add_sub_add_right, ← isum_map_sub, isum_map_perm _ hp, List.map_cons, isum_cons,
    sel_of_eq rfl, sel_of_eq rfl, Int.sub_self, Int.zero_add]

theorem sel_join (t : Table) (r : List Nat) (x y i : Nat) (hx : x < r.length) (hy : y < r.length) (hyx : y ≠ x) :
    sel t (moveKeys r x (2 * (Int.ofNat i) + 1)) x y =
      t.bef x y + stepAt (r.getD y 0) i (t.tie x y - t.bef x y) + stepAt (r.getD y 0 + 1) i (t.aft x y - t.tie x y) := by
  simp only [sel, getD_moveKeys hx, getD_moveKeys hy, if_pos, if_neg hyx, Int.ofNat_eq_natCast, stepAt]
  omega

theorem sel_new (t : Table) (r : List Nat) (x y p : Nat) (hx : x < r.length) (hy : y < r.length) (hyx : y ≠ x) :
    sel t (moveKeys r x (2 * (Int.ofNat p))) x y =
      t.bef x y + stepAt (r.getD y 0 + 1) p (t.aft x y - t.bef x y) := by
  simp only [sel, getD_moveKeys hx, getD_moveKeys hy, if_pos, if_neg hyx, Int.ofNat_eq_natCast, stepAt]
  omega

/-- `around change b j` as `computeDelta` would return it if the loop stopped in state `st`: the totals over the
    bucket of `x` are written to the cells `b - 1` and `b + 1` -/
def chCum (b : Nat) (st : DeltaSt) (j : Nat) : Int :=
  around st.change b j + (stepAt b j (st.ttt - st.ttb) - (st.ttt - st.ttb)) + stepAt (b + 1) j (st.tta - st.ttt)

/-- same for `around add (b + 1) j`: the totals are written to the cells `b + 1` and `b`, on either side of the gap -/
def adCum (b : Nat) (st : DeltaSt) (j : Nat) : Int :=
  around st.add (b + 1) j + stepAt (b + 1) j (st.tta - st.ttt) +
    (stepAt (b + 1) j (st.ttt - st.ttb) - (st.ttt - st.ttb))

/-- the loop goes from `st` to `st'` over the elements `ys`: the sums to target `j` grow by what the move changes for
    the pairs `x, y`, and `alone` is met with "no `y` in the bucket of `x`" -/
def DeltaRel (t : Table) (r : List Nat) (x j : Nat) (ys : List Nat) (st st' : DeltaSt) : Prop :=
  st'.change.length = st.change.length ∧ st'.add.length = st.add.length ∧
  chCum (r.getD x 0) st' j = chCum (r.getD x 0) st j + isum (ys.map fun y =>
    sel t (moveKeys r x (2 * (Int.ofNat j) + 1)) x y - sel t (moveKeys r x (2 * (Int.ofNat (r.getD x 0)) + 1)) x y) ∧
  adCum (r.getD x 0) st' j = adCum (r.getD x 0) st j + isum (ys.map fun y =>
    sel t (moveKeys r x (2 * (Int.ofNat j))) x y - sel t (moveKeys r x (2 * (Int.ofNat (r.getD x 0)) + 1)) x y) ∧
  st'.alone = (st.alone && ys.all fun y => decide (y ≠ x → r.getD y 0 ≠ r.getD x 0))

theorem DeltaRel.trans {t : Table} {r : List Nat} {x j : Nat} {ys zs : List Nat} {st s1 s2 : DeltaSt}
    (h1 : DeltaRel t r x j ys st s1) (h2 : DeltaRel t r x j zs s1 s2) : DeltaRel t r x j (ys ++ zs) st s2 :=
  ⟨h2.1.trans h1.1, h2.2.1.trans h1.2.1,
    by rw [h2.2.2.1, h1.2.2.1, List.map_append, isum_append, Int.add_assoc],
    by rw [h2.2.2.2.1, h1.2.2.2.1, List.map_append, isum_append, Int.add_assoc],
    by rw [h2.2.2.2.2, h1.2.2.2.2, List.all_append, Bool.and_assoc]⟩

theorem deltaStep_spec (t : Table) (r : List Nat) (x : Nat) (hx : x < r.length) (st : DeltaSt) (y j : Nat)
    (hy : y < r.length) (hc : r.getD y 0 + 1 < st.change.length) (ha : r.getD y 0 + 1 < st.add.length) :
    DeltaRel t r x j [y] st (deltaStep t r x (r.getD x 0) st y) := by
  simp only [DeltaRel, deltaStep, chCum, adCum, List.map_cons, List.map_nil, isum_cons, isum_nil, Int.add_zero,
    List.all_cons, List.all_nil, Bool.and_true]
  by_cases hyx : y = x
  · subst hyx
    simp [sel_of_eq]
  rw [sel_join t r x y _ hx hy hyx, sel_join t r x y _ hx hy hyx, sel_new t r x y _ hx hy hyx]
  generalize r.getD x 0 = b
  -- the three branches of the loop body: both steps of `y` beyond the gap, one on each side, both before it
  rcases Nat.lt_trichotomy b (r.getD y 0) with h1 | he | h2
  · simp only [h1, if_true, length_addAt, ne_eq, Nat.ne_of_gt h1, not_false_eq_true, implies_true, decide_true,
      Bool.and_true, true_and, and_true]
    rw [around_addAt_right (by rw [length_addAt]; exact hc) (Nat.le_add_right_of_le (Nat.le_of_lt h1)),
      around_addAt_right (Nat.lt_of_succ_lt hc) (Nat.le_of_lt h1),
      around_addAt_right ha (Nat.add_le_add_right (Nat.le_of_lt h1) 1),
      stepAt_of_lt h1, stepAt_of_lt (Nat.lt_succ_of_lt h1)]
    simp +arith only [and_self]
  · simp only [← he, Nat.lt_irrefl, if_false, gt_iff_lt, true_and, Ne.symm hyx, hyx, ne_eq, not_false_eq_true, if_true,
      not_true_eq_false, imp_false, decide_false, Bool.and_false, and_true, stepAt_of_le (Nat.le_refl b),
      stepAt_of_lt (Nat.lt_succ_self b), stepAt_sub, stepAt_add]
    simp +arith only [and_self]
  · simp only [Nat.lt_asymm h2, h2, if_true, if_false, ne_eq, Nat.ne_of_lt h2, not_false_eq_true, implies_true,
      decide_true, Bool.and_true, apply_ite List.length, length_addAt, ite_self, true_and, and_true]
    rw [around_addAt_pred (by rw [length_addAt]; exact Nat.le_of_lt (Nat.lt_of_succ_lt hc))
        (Nat.le_of_lt h2),
      around_addAt_left (Nat.lt_of_succ_lt hc) h2,
      around_addAt_left (Nat.lt_of_succ_lt ha) (Nat.lt_add_right 1 h2),
      stepAt_of_le (Nat.le_of_lt h2), stepAt_of_le h2]
    simp +arith only [and_self]

theorem deltaFold_spec (t : Table) (r : List Nat) (x : Nat) (hx : x < r.length) (j : Nat) (ys : List Nat)
    (st : DeltaSt)
    (h : ∀ y ∈ ys, y < r.length ∧ r.getD y 0 + 1 < st.change.length ∧ r.getD y 0 + 1 < st.add.length) :
    DeltaRel t r x j ys st (ys.foldl (deltaStep t r x (r.getD x 0)) st) := by
  induction ys generalizing st with
  | nil => exact ⟨rfl, rfl, (Int.add_zero _).symm, (Int.add_zero _).symm, (Bool.and_true _).symm⟩
  | cons y ys ih =>
    obtain ⟨hy, hc, ha⟩ := h y List.mem_cons_self
    have s := deltaStep_spec t r x hx st y j hy hc ha
    exact s.trans (ih _ fun z hz => by rw [s.1, s.2.1]; exact h z (List.mem_cons_of_mem y hz))

/-- `hb`: all bucket ids are `< n`, which density implies (`DenseN.lt_length`); without it the writes at `b2 + 1` can
    fall outside the arrays (`BioDeltaExample.tab2`). -/
theorem computeDelta_spec (t : Table) (r : List Nat) (hm : MirrorT t r.length) (hb : ∀ v ∈ r, v < r.length)
    (x : Nat) (hx : x < r.length) :
    (computeDelta t r x).1.length = r.length + 2 ∧ (computeDelta t r x).2.1.length = r.length + 3 ∧
    (∀ j, around (computeDelta t r x).1 (r.getD x 0) j =
      scoreVec t (moveKeys r x (2 * (Int.ofNat j) + 1)) - scoreVecN t r) ∧
    (∀ p, around (computeDelta t r x).2.1 (r.getD x 0 + 1) p =
      scoreVec t (moveKeys r x (2 * (Int.ofNat p))) - scoreVecN t r) ∧
    ((computeDelta t r x).2.2 = true ↔ AloneAt r x) := by
  have hbx := hb _ (getD_mem 0 hx)
  have hspec := fun j => deltaFold_spec t r x hx j (List.range r.length)
    { change := List.replicate (r.length + 2) 0, add := List.replicate (r.length + 3) 0, alone := true,
      ttb := 0, tta := 0, ttt := 0 }
    (fun y hy => by
      have hy := List.mem_range.mp hy
      have := hb _ (getD_mem 0 hy)
      simp only [List.length_replicate]; omega)
  simp only [DeltaRel, chCum, adCum, around_replicate, List.length_replicate, Int.sub_self, stepAt_zero,
    Int.add_zero, Int.zero_add, Bool.true_and, scoreVec_moveKeys_sub t r hm x hx, ← scoreVecN_eq_keys] at hspec
  unfold computeDelta
  simp only []
  generalize (List.range r.length).foldl (deltaStep t r x (r.getD x 0)) _ = st at hspec
  obtain ⟨l1, l2, _⟩ := hspec 0
  have hb1 : r.getD x 0 + 1 < r.length + 2 := Nat.lt_succ_of_lt (Nat.succ_lt_succ hbx)
  refine ⟨by rw [length_addAt, apply_ite List.length, length_addAt, ite_self, l1],
    by rw [length_addAt, length_addAt, l2], fun j => ?_, fun j => ?_, ?_⟩
  · rw [around_addAt_right (by rw [apply_ite List.length, length_addAt, ite_self, l1]; exact hb1)
        (Nat.le_succ _),
      around_addAt_pred (l1 ▸ Nat.le_of_lt (Nat.lt_of_succ_lt hb1)) (Nat.le_refl _)]
    exact (hspec j).2.2.1
  · rw [around_addAt_left (by rw [length_addAt, l2]; exact Nat.lt_of_succ_lt (Nat.lt_succ_of_lt hb1))
        (Nat.lt_succ_self _),
      around_addAt_right (l2 ▸ Nat.lt_succ_of_lt hb1) (Nat.le_refl _)]
    exact (hspec j).2.2.2.1
  · rw [(hspec 0).2.2.2.2]
    simp only [AloneAt, List.all_eq_true, List.mem_range, decide_eq_true_eq]

theorem bio_change_own_zero (t : Table) (r : List Nat) (hm : MirrorT t r.length) (hb : ∀ v ∈ r, v < r.length)
    (x : Nat) (hx : x < r.length) : (computeDelta t r x).1.getD (r.getD x 0) 0 = 0 := by
  rw [← around_self, (computeDelta_spec t r hm hb x hx).2.2.1, ← scoreVecN_eq_keys, Int.sub_self]

theorem bio_delta_change (t : Table) (r : List Nat) (hm : MirrorT t r.length) (hb : ∀ v ∈ r, v < r.length)
    (x : Nat) (hx : x < r.length) (j : Nat) (_hj : j ≤ r.foldl max 0) (hjb : j ≠ r.getD x 0) :
    changeTo (computeDelta t r x).1 (r.getD x 0) j =
      scoreVec t (moveKeys r x (2 * (Int.ofNat j) + 1)) - scoreVecN t r :=
  (changeTo_eq_around (bio_change_own_zero t r hm hb x hx) hjb).trans
    ((computeDelta_spec t r hm hb x hx).2.2.1 j)

theorem bio_delta_add (t : Table) (r : List Nat) (hm : MirrorT t r.length) (hb : ∀ v ∈ r, v < r.length)
    (x : Nat) (hx : x < r.length) (p : Nat) (_hp : p ≤ r.foldl max 0 + 1) :
    addTo (computeDelta t r x).2.1 (r.getD x 0) p =
      scoreVec t (moveKeys r x (2 * (Int.ofNat p))) - scoreVecN t r :=
  (addTo_eq_around _ _ p).trans ((computeDelta_spec t r hm hb x hx).2.2.2.1 p)

namespace BioDeltaExample

-- 5 elements, buckets `{1,3} < {0,2} < {4}`, a table with the mirror law that is not symmetric
def cst (i j : Nat) : Cost :=
  if i < j then (Int.ofNat (3 * i + j + 1), Int.ofNat (i + 2 * j * j + 2), Int.ofNat (7 * i + j * j))
  else if j < i then (Int.ofNat (j + 2 * i * i + 2), Int.ofNat (3 * j + i + 1), Int.ofNat (7 * j + i * i))
  else (0, 0, 0)

def tab : Table := (List.range 5).map fun i => (List.range 5).map fun j => cst i j

def vec : List Nat := [1, 0, 1, 0, 2]

example : (List.range 5).all (fun i => (List.range 5).all fun j =>
    tab.bef i j == tab.aft j i && tab.tie i j == tab.tie j i) = true := by decide +kernel
example : tab.bef 0 1 ≠ tab.aft 0 1 ∧ tab.bef 0 1 ≠ tab.tie 0 1 ∧ tab.get 0 1 ≠ tab.get 1 0 := by decide +kernel

-- joining another bucket: elements 2 and 3 share their buckets, element 4 is alone in its bucket
example : changeTo (computeDelta tab vec 2).1 1 0 = scoreVec tab (moveKeys vec 2 1) - scoreVecN tab vec := by decide +kernel
example : changeTo (computeDelta tab vec 2).1 1 2 = scoreVec tab (moveKeys vec 2 5) - scoreVecN tab vec := by decide +kernel
example : changeTo (computeDelta tab vec 3).1 0 2 = scoreVec tab (moveKeys vec 3 5) - scoreVecN tab vec := by decide +kernel
example : changeTo (computeDelta tab vec 4).1 2 0 = scoreVec tab (moveKeys vec 4 1) - scoreVecN tab vec := by decide +kernel
-- new singleton buckets before old buckets 0, 1, 2 and at the end
example : (List.range 4).all (fun p =>
    addTo (computeDelta tab vec 2).2.1 1 p == scoreVec tab (moveKeys vec 2 (2 * Int.ofNat p)) - scoreVecN tab vec) = true := by
  decide +kernel
example : (List.range 4).all (fun p =>
    addTo (computeDelta tab vec 4).2.1 2 p == scoreVec tab (moveKeys vec 4 (2 * Int.ofNat p)) - scoreVecN tab vec) = true := by
  decide +kernel
-- the values are not trivially zero
example : changeTo (computeDelta tab vec 2).1 1 0 = 12 ∧ addTo (computeDelta tab vec 2).2.1 1 3 = 24 := by decide +kernel
example : (computeDelta tab vec 2).2.2 = false ∧ (computeDelta tab vec 4).2.2 = true := by decide +kernel
example : (computeDelta tab vec 2).1.getD 1 0 = 0 := by decide +kernel
example : scoreVecN tab vec = scoreVec tab (moveKeys vec 2 3) := by decide +kernel

-- the bound on the ids is needed: on the non-dense vector `[0, 5]` the writes at index 5, 6 fall outside `change`
def tab2 : Table := [[(0, 0, 0), (1, 2, 4)], [(2, 1, 4), (0, 0, 0)]]
example : changeTo (computeDelta tab2 [0, 5] 0).1 0 5 = 0 ∧
    scoreVec tab2 (moveKeys [0, 5] 0 11) - scoreVecN tab2 [0, 5] = 3 := by decide +kernel
example : addTo (computeDelta tab2 [0, 5] 0).2.1 0 6 = 0 ∧
    scoreVec tab2 (moveKeys [0, 5] 0 12) - scoreVecN tab2 [0, 5] = 1 := by decide +kernel

end BioDeltaExample

end Corankco
