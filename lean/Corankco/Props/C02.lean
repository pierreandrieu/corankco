import Corankco.Lemmas.C02
import Corankco.Spec.Bio
/-
  C02 — the pairwise cost table the code builds: its mirror law (`C02_mirror`), its agreement with the table of the
  definition (`C02_def`; the `example` shows that validity of the scheme is needed), positions against bucket ids
  (`C02_pos_eq_bid`), and the Kemeny score as the sum of the entries a candidate selects (`C02_sum`).
-/
namespace Corankco
open Model

/-- Mirror law of the table the code builds, for every scheme and every position matrix:
    `before(i,j) = after(j,i)` and `tied(i,j) = tied(j,i)`. -/
theorem C02_mirror (S : Scheme) (pos : List (List Int)) (i j : Nat)
    (hi : i < pos.length) (hj : j < pos.length) :
    (costMatrix S pos).bef i j = (costMatrix S pos).aft j i ∧
    (costMatrix S pos).tie i j = (costMatrix S pos).tie j i := by
  unfold Table.bef Table.aft Table.tie Table.get costMatrix
  rw [getD_range_map hi, getD_range_map hj,
      getD_range_map hj, getD_range_map hi]
  rcases Nat.lt_trichotomy i j with h | h | h
  · simp [h, Nat.lt_asymm h, Cost.swap]
  · subst h; simp
  · simp [h, Nat.lt_asymm h, Cost.swap]

theorem mirror_costMatrix (S : Scheme) (D : Dataset) :
    Spec.MirrorT (costMatrix S (getPositions D)) (univOf D).length := by
  intro i j hi hj
  rw [← List.length_map (fun x => D.map fun r => posIn r x)] at hi hj
  exact C02_mirror S (getPositions D) i j hi hj

/-- NOT A THEOREM without a hypothesis on `S`: the code mirrors the lower triangle from the upper one, so its `tied`
    entry at `(y, x)` is `tied x y`; the definition's is `tied y x`, which differs once `t0 ≠ t1` (or `t3 ≠ t4`). -/
example : ¬ ∀ (S : Scheme) (D : Dataset), costMatrix S (getPositions D) = Spec.specTable S D :=
  fun h => absurd (h ⟨0, 1, 0, 0, 0, 0, 0, 1, 0, 0, 0, 0⟩ [[[0], [1]]]) (by decide +kernel)

/-- The table the code builds from the position matrix is the table of the definition, for every valid scheme (only
    `t0 = t1` and `t3 = t4` are used). -/
theorem C02_def (S : Scheme) (hS : S.Valid) (D : Dataset) :
    costMatrix S (getPositions D) = Spec.specTable S D :=
  costMatrix_rankFn_eq_specTable rankFn_posIn S hS.t01
    hS.t34 D

/-- Positions and bucket ids give the same table. -/
theorem C02_pos_eq_bid (S : Scheme) (D : Dataset) :
    costMatrix S (getPositions D) = costMatrix S (getBucketIds D) := by
  unfold costMatrix getPositions getBucketIds
  simp only [List.length_map]
  refine List.map_congr_left fun i hi => List.map_congr_left fun j hj => ?_
  rw [List.mem_range] at hi hj
  simp only [getD_map_of_lt hi, getD_map_of_lt hj, pairCost_rankFn rankFn_posIn,
    pairCost_rankFn rankFn_bidIn]

/-- For a candidate that ranks every element of the universe once, the entries of the definition's table selected by its
    pairwise placements add up to its Kemeny score. -/
theorem C02_sum (S : Scheme) (hS : S.Valid) (D : Dataset) (c : Ranking)
    (hc : c.flatten.Perm (univOf D)) :
    scoreVec (Spec.specTable S D) (vecOf (univOf D) c) = Spec.kemeny S D c := by
  unfold scoreVec Spec.kemeny Spec.kemenyOne
  have hl : (vecOf (univOf D) c).length = (univOf D).length := List.length_map _
  -- pairs of the candidate's elements → pairs of the universe (`pen` is symmetric), then the two sums change places
  rw [hl, isum_map_congr fun r _ => isum_pairs_perm (fun x y => Spec.pen S r c x y) hc
      fun x _ y _ => pen_symm S hS.t01 hS.t34 r c x y,
    isum_map_isum_comm (fun r (p : Elem × Elem) => Spec.pen S r c p.1 p.2) D (pairs (univOf D))]
  exact isum_pairs_range (univOf D) _ (fun x y => isum (D.map fun r => Spec.pen S r c x y))
    fun i j hi hj hij => sel_specTable S D c hi hj (Nat.ne_of_lt hij) (hc.mem_iff.mpr (List.getElem_mem hi))
      (hc.mem_iff.mpr (List.getElem_mem hj))

/-- Non-vacuity of `C02_sum`: a 3-element dataset with a tie (`{0,1}`) and an unranked element
    (`1` in the second ranking), a valid non-preset scheme, a complete candidate with a tie. -/
example :
    let S : Scheme := ⟨0, 2, 1, 1, 3, 1, 2, 2, 0, 3, 3, 1⟩
    let D : Dataset := [[[0, 1], [2]], [[2], [0]]]
    let c : Ranking := [[2, 0], [1]]
    S.Valid ∧ univOf D = [0, 1, 2] ∧ c.flatten.Perm (univOf D) := by
  decide +kernel

end Corankco
