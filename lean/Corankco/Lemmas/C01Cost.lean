import Corankco.Lemmas.C01Counts
import Corankco.Lemmas.C01Merge
import Corankco.Lemmas.C01Prefix
/-
  The program side: `costByRanking c r` is the table `closed c r` (`costByRanking_closed`), which `counts_closed`
  shows to be the pair counters.
-/
namespace Corankco
namespace C01
open Model Spec

def rPrime (c r : Ranking) : List (List Nat) := r.map fun b => sortNat (b.map (bIdx c))

def t3 (c r : Ranking) : List Nat :=
  (List.range c.length).map fun i => ((missing c r).filter fun x => bIdx c x == i).length

theorem costByRanking_unfold (c r : Ranking) :
    costByRanking c r =
      ([0, (mergeSortLike (rPrime c r)).2.1, ((rPrime c r).map tieRun).sum,
        ((rPrime c r).flatten.map fun k => (suffixAfter (missing c r).length (t3 c r)).getD k 0).sum,
        ((rPrime c r).flatten.map fun k => (prefixExcl 0 (t3 c r)).getD k 0).sum,
        (missingLoop (missing c r).length ((c.map List.length).zip (t3 c r))).1],
       [(mergeSortLike (rPrime c r)).2.2, 0, 0,
        (missingLoop (missing c r).length ((c.map List.length).zip (t3 c r))).2.1, 0,
        (missingLoop (missing c r).length ((c.map List.length).zip (t3 c r))).2.2]) := rfl

theorem t3_eq (c r : Ranking) :
    t3 c r = (List.range c.length).map fun i => (missing c r).countP fun x => bIdx c x == i := by
  simp only [t3, List.countP_eq_length_filter]

theorem missing_bIdx_lt (c r : Ranking) : ∀ x ∈ missing c r, bIdx c x < c.length := fun _ hx =>
  bIdx_lt (List.mem_filter.mp hx).1

theorem sum_rPrime_getD (c r : Ranking) (hsub : ∀ x ∈ r.flatten, x ∈ c.flatten) (g : Nat → Nat) :
    ((rPrime c r).flatten.map fun k => ((List.range c.length).map g).getD k 0).sum =
      (r.flatten.map fun x => g (bIdx c x)).sum := by
  have hp : (rPrime c r).flatten.Perm (r.flatten.map (bIdx c)) := by
    induction r with
    | nil => exact .refl _
    | cons b bs ih =>
      simp only [rPrime, List.map_cons, List.flatten_cons, List.map_append] at ih ⊢
      exact (sortNat_spec _).1.append (ih fun x hx => hsub x (List.mem_append_right _ hx))
  rw [(hp.map _).sum_nat, List.map_map]
  exact sum_map_congr fun x hx => getD_range_map (bIdx_lt (hsub x hx))

theorem lengths_eq_fibres (c : Ranking) (hc : c.flatten.Nodup) :
    c.map List.length = (List.range c.length).map fun i => c.flatten.countP fun x => bIdx c x == i := by
  induction c with
  | nil => rfl
  | cons b bs ih =>
    rw [List.flatten_cons] at hc ⊢
    obtain ⟨_, hbs, hd⟩ := List.nodup_append.mp hc
    have h0 : ∀ x ∈ b, bIdx (b :: bs) x = 0 := fun x hx => bIdx_cons_of_mem hx bs
    have h1 : ∀ x ∈ bs.flatten, bIdx (b :: bs) x = bIdx bs x + 1 := fun x hx =>
      bIdx_cons_of_not_mem (fun hxb => hd x hxb x hx rfl) hx
    rw [List.length_cons, List.range_succ_eq_map, List.map_cons, List.map_cons, List.map_map, ih hbs]
    refine List.cons_eq_cons.mpr ⟨?_, ?_⟩
    · rw [List.countP_append, List.countP_eq_length.mpr fun x hx => by simp [h0 x hx],
        List.countP_eq_zero.mpr fun x hx => by simp [h1 x hx]]
      rfl
    · refine List.map_congr_left fun j _ => ?_
      show _ = (b ++ bs.flatten).countP fun x => bIdx (b :: bs) x == j + 1
      rw [List.countP_append, (List.countP_eq_zero (l := b)).mpr fun x hx => by simp [h0 x hx], Nat.zero_add]
      exact List.countP_congr fun x hx => by simp [h1 x hx]

section
variable (c r : Ranking) (hc : c.flatten.Nodup) (hr : r.flatten.Nodup) (hsub : ∀ x ∈ r.flatten, x ∈ c.flatten)
include hc hr hsub

/-- With `m i` unranked elements in bucket `i` of `c`, the loop returns `Σ (unranked after i) * m i`,
    `Σ (ranked in i) * m i` and `Σ m i * (m i - 1) / 2`. -/
theorem missingLoop_closed :
    missingLoop (missing c r).length ((c.map List.length).zip (t3 c r)) =
      (cross (ltc c) (missing c r) (missing c r), cross (eqc c) r.flatten (missing c r),
        (pairs (missing c r)).countP fun p => eqc c p.1 p.2) := by
  rw [missingLoop_eq, lengths_eq_fibres c hc, t3_eq, List.zip_map']
  simp only [List.map_map, Function.comp_def, suffixAfter_range, List.zipWith_map, List.zipWith_self]
  refine Prod.ext ?_ (Prod.ext ?_ ?_)
  · exact (sum_map_congr fun i _ => Nat.mul_comm ..).trans
      (sum_fibres (missing c r) (bIdx c) (fun i => (missing c r).countP fun y => decide (i < bIdx c y)) c.length
        (missing_bIdx_lt c r)).symm
  · refine .trans (sum_map_congr fun i _ => ?_)
      (sum_fibres r.flatten (bIdx c) (fun i => (missing c r).countP fun y => bIdx c y == i) c.length
        fun x hx => bIdx_lt (hsub x hx)).symm
    rw [(flatten_perm_append_missing c r hc hr hsub).countP_eq, List.countP_append, Nat.add_sub_cancel]
  · exact (countP_pairs_fibre (missing c r) (bIdx c) c.length (missing_bIdx_lt c r)).symm

theorem costByRanking_closed : costByRanking c r = closed c r := by
  rw [costByRanking_unfold, missingLoop_closed c r hc hr hsub, t3_eq, suffixAfter_range, prefixExcl_range,
    sum_rPrime_getD c r hsub, sum_rPrime_getD c r hsub, rPrime, mergeSortLike_sortNat, List.map_map]
  simp only [Function.comp_def, tieRun_sortNat]
  rfl

end
end C01
end Corankco
