import Corankco.Lemmas.C11
import Corankco.Props.C02b
import Corankco.Props.C13
/-
  C11 — KwikSort.  The vectorised decision is the cheapest placement of the definition (`C11_where`), so the run on ids,
  read through `univOf D`, has the guarantee `Good` of the recursion for that placement (`kwikSortDataset_good`), from
  which `C11_holds`, `C11_pivot_independent` and `C11_unanimous` follow.  The cheapest placement depends neither on the
  order of the input rankings nor on the names of the elements (`C11_whereSpec_perm`, `C11_whereSpec_rename`).
-/
namespace Corankco
open Model

/-- The decision of `_where_should_it_be` on two rows of the position matrix is the cheapest placement of the
    definition: tie preferred, then before. -/
theorem C11_where (S : Scheme) (D : Dataset) (i j : Nat)
    (hi : i < (univOf D).length) (hj : j < (univOf D).length) (hij : i ≠ j) :
    whereShouldItBe S ((getPositions D).getD i []) ((getPositions D).getD j []) =
      Spec.whereSpec S D ((univOf D).getD i 0) ((univOf D).getD j 0) := by
  have _ := hij  -- not needed: the identity also holds on the diagonal
  unfold getPositions
  rw [getD_map_of_lt hi, getD_map_of_lt hj, getD_of_lt hi, getD_of_lt hj]
  exact whereShouldItBe_rows rankFn_posIn S D _ _

theorem kwikSortDataset_good (S : Scheme) (D : Dataset) (order : List Nat)
    (horder : order.Perm (List.range (univOf D).length)) (script : List Nat) :
    Good (Spec.whereSpec S D) (univOf D) (kwikSortDataset S D order script).1 (kwikSortDataset S D order script).2 := by
  have hlt : ∀ i ∈ order, i < (univOf D).length := fun _ hi => List.mem_range.mp (horder.mem_iff.mp hi)
  have hr := horder.map fun i => (univOf D).getD i 0
  rw [map_getD_range] at hr
  exact (kwikSort_good _ order.length order script (horder.nodup_iff.mpr List.nodup_range) (Nat.le_refl _)).map
    (fun i => (univOf D).getD i 0) (fun a ha b hb => (List.getD_inj (hlt a ha) (hlt b hb) (nodup_univOf D)).mp)
    (fun p hp e he => C11_where S D p e (hlt p hp) (hlt e he)) hr

theorem kwikSortDataset_wellFormed (S : Scheme) (D : Dataset) (order : List Nat)
    (horder : order.Perm (List.range (univOf D).length)) (script : List Nat) :
    Spec.wellFormedRanking (univOf D) (kwikSortDataset S D order script).1 = true :=
  have hg := kwikSortDataset_good S D order horder script
  wellFormed_of_perm hg.perm (nodup_univOf D) hg.nonempty

/-- For every pivot script: the result is a well-formed ranking over exactly the universe; every element of every
    recursion step stands before / with / after that step's pivot according to the cheapest pairwise placement; and if
    the cheapest placements cohere into a ranking with ties, the result is exactly that ranking. -/
theorem C11_holds (S : Scheme) (D : Dataset) (order : List Nat)
    (horder : order.Perm (List.range (univOf D).length)) (script : List Nat) :
    Spec.C11.holds S D (kwikSortDataset S D order script).1 (kwikSortDataset S D order script).2 = true := by
  have hg := kwikSortDataset_good S D order horder script
  have hw := kwikSortDataset_wellFormed S D order horder script
  unfold Spec.C11.holds
  simp only [Bool.and_eq_true, hw, true_and, List.all_eq_true, Bool.or_eq_true, beq_iff_eq,
    Bool.not_eq_true']
  refine ⟨?_, ?_⟩
  · intro st hst e he
    by_cases hne : e = st.2
    · exact .inl hne
    · right
      rw [(hg.steps st hst).2.2 e he hne, ordToInt_compare_whereSpec]
  · by_cases hc : Spec.coherent S D = true
    · right
      exact ordersBy_of_sorted (Spec.cntBefore S D) hw (hg.sorted _ (coherent_key S D hc))
    · left
      simpa using hc

/-- Under coherence any two pivot scripts and initial orders give the same relative placement of every pair. -/
theorem C11_pivot_independent (S : Scheme) (D : Dataset) (hc : Spec.coherent S D = true)
    (o1 o2 : List Nat) (h1 : o1.Perm (List.range (univOf D).length)) (h2 : o2.Perm (List.range (univOf D).length))
    (s1 s2 : List Nat) :
    ∀ x ∈ univOf D, ∀ y ∈ univOf D,
      Spec.cmpIn (kwikSortDataset S D o1 s1).1 x y = Spec.cmpIn (kwikSortDataset S D o2 s2).1 x y := by
  intro x hx y hy
  rw [(kwikSortDataset_good S D o1 h1 s1).sorted _ (coherent_key S D hc) x hx y hy,
    (kwikSortDataset_good S D o2 h2 s2).sorted _ (coherent_key S D hc) x hx y hy]

/-- On copies of one ranking every pair is placed as in that ranking, whenever breaking a tie and creating one both
    cost something. -/
theorem C11_unanimous (S : Scheme) (hS : S.Valid) (ht : 0 < S.t0) (hb : 0 < S.b2)
    (r : Ranking) (hr : r.flatten.Nodup) (hne : ∀ b ∈ r, b ≠ []) (m : Nat) (hm : 0 < m)
    (order : List Nat) (horder : order.Perm (List.range (univOf (List.replicate m r)).length)) (script : List Nat) :
    ∀ x ∈ r.flatten, ∀ y ∈ r.flatten,
      Spec.cmpIn (kwikSortDataset S (List.replicate m r) order script).1 x y = Spec.cmpIn r x y := by
  have _ := hr; have _ := hne  -- not needed: `bucketIdx` reads the first bucket containing an element
  intro x hx y hy
  rw [cmpIn_eq r x y]
  apply (kwikSortDataset_good S (List.replicate m r) order horder script).sorted (bIdx r)
  · intro p hp e he _
    rw [whereSpec_replicate_one S r m hm]
    exact whereSpec_single S hS ht hb r p e ((mem_univOf_replicate hm p).mp hp) ((mem_univOf_replicate hm e).mp he)
  · exact (mem_univOf_replicate hm x).mpr hx
  · exact (mem_univOf_replicate hm y).mpr hy

/-- An incoherent dataset (a 3-cycle of majority preferences): the result depends on the pivot script, and the
    property still holds for both runs (its third clause is then void). -/
example :
    let S : Scheme := ⟨0, 1, 1, 0, 1, 1, 1, 1, 0, 1, 1, 0⟩
    let D : Dataset := [[[0], [1], [2]], [[1], [2], [0]], [[2], [0], [1]]]
    Spec.coherent S D = false ∧
    (kwikSortDataset S D [0, 1, 2] [0]).1 = [[2], [0], [1]] ∧
    (kwikSortDataset S D [0, 1, 2] [1]).1 = [[0], [1], [2]] ∧
    Spec.C11.holds S D (kwikSortDataset S D [0, 1, 2] [0]).1 (kwikSortDataset S D [0, 1, 2] [0]).2 = true ∧
    Spec.C11.holds S D (kwikSortDataset S D [0, 1, 2] [1]).1 (kwikSortDataset S D [0, 1, 2] [1]).2 = true := by
  decide +kernel

/-- A coherent dataset whose first ranking is incomplete and contains a tie: two different scripts and initial
    orders give the same ranking with ties (buckets listed in a different internal order). -/
example :
    let S : Scheme := ⟨0, 1, 1, 0, 1, 1, 1, 1, 0, 1, 1, 0⟩
    let D : Dataset := [[[0, 1]], [[0], [1], [2]]]
    Spec.coherent S D = true ∧
    (kwikSortDataset S D [0, 1, 2] [0, 0]).1 = [[0, 1], [2]] ∧
    (kwikSortDataset S D [2, 1, 0] [1, 1]).1 = [[1, 0], [2]] ∧
    Spec.C11.holds S D (kwikSortDataset S D [0, 1, 2] [0, 0]).1 (kwikSortDataset S D [0, 1, 2] [0, 0]).2 = true := by
  decide +kernel

open Spec

/-- The cheapest pairwise placement that KwikSort follows at every step does not depend on the order of the input
    rankings. -/
theorem C11_whereSpec_perm (S : Scheme) (D D' : Dataset) (hp : D.Perm D') (p e : Elem) :
    Spec.whereSpec S D p e = Spec.whereSpec S D' p e := by
  unfold Spec.whereSpec
  rw [C13_before_perm S D D' hp, C13_after_perm S D D' hp, C02_tied_perm S D D' hp]

/-- The cheapest pairwise placement does not depend on the names of the elements. -/
theorem C11_whereSpec_rename {f : Elem → Elem} (hf : Function.Injective f) (S : Scheme) (D : Dataset) (p e : Elem) :
    Spec.whereSpec S (D.map fun r => r.map fun b => b.map f) (f p) (f e) = Spec.whereSpec S D p e := by
  unfold Spec.whereSpec
  rw [C13_before_rename hf, C13_after_rename hf, C02_tied_rename hf]

/-- Non-vacuity: a pair whose cheapest placement is a tie, in two orders of the same rankings. -/
example :
    Spec.whereSpec Model.unifying [[[0, 1], [2]], [[2], [0]], [[1], [0]]] 0 1 = 0 ∧
      Spec.whereSpec Model.unifying [[[1], [0]], [[0, 1], [2]], [[2], [0]]] 0 1 = 0 ∧
      Spec.whereSpec Model.unifying [[[0, 1], [2]], [[2], [0]], [[1], [0]]] 2 0 = -1 := by
  decide +kernel

end Corankco
