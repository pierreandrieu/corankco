import Corankco.Lemmas.Basic
import Corankco.Spec.Kemeny
/-
  What `Spec.status` says: its value from the membership of the two elements in the ranking, its behaviour when
  the pair is swapped, and its recursion over the buckets.
-/
namespace Corankco
open Spec

theorem status_cases (r : Ranking) (x y : Elem) :
    (x ∈ r.flatten ∧ y ∈ r.flatten ∧ status r x y < 3) ∨ (x ∈ r.flatten ∧ y ∉ r.flatten ∧ status r x y = 3) ∨
    (x ∉ r.flatten ∧ y ∈ r.flatten ∧ status r x y = 4) ∨ (x ∉ r.flatten ∧ y ∉ r.flatten ∧ status r x y = 5) := by
  unfold status
  cases hx : bucketIdx r x <;> cases hy : bucketIdx r y
  · exact .inr (.inr (.inr ⟨bucketIdx_eq_none.mp hx, bucketIdx_eq_none.mp hy, rfl⟩))
  · exact .inr (.inr (.inl ⟨bucketIdx_eq_none.mp hx, mem_of_bucketIdx_eq_some hy, rfl⟩))
  · exact .inr (.inl ⟨mem_of_bucketIdx_eq_some hx, bucketIdx_eq_none.mp hy, rfl⟩)
  · refine .inl ⟨mem_of_bucketIdx_eq_some hx, mem_of_bucketIdx_eq_some hy, ?_⟩
    dsimp only
    split
    · decide
    · split <;> decide

def swapSt : Nat → Nat
  | 0 => 1 | 1 => 0 | 3 => 4 | 4 => 3 | k => k

theorem swapSt_swapSt (k : Nat) : swapSt (swapSt k) = k :=
  match k with
  | 0 | 1 | 2 | 3 | 4 | _ + 5 => rfl

theorem status_swap (r : Ranking) (x y : Elem) : status r y x = swapSt (status r x y) := by
  unfold status
  cases bucketIdx r x <;> cases bucketIdx r y <;> try rfl
  rename_i i j
  rcases Nat.lt_trichotomy i j with h | h | h
  · simp [h, Nat.lt_asymm h, swapSt]
  · simp [h, swapSt]
  · simp [h, Nat.lt_asymm h, swapSt]

theorem status_lt_6 (r : Ranking) (x y : Elem) : status r x y < 6 := by
  rcases status_cases r x y with ⟨_, _, h⟩ | ⟨_, _, h⟩ | ⟨_, _, h⟩ | ⟨_, _, h⟩ <;> omega

theorem status_of_mem_of_not_mem {r : Ranking} {x y : Elem} (hx : x ∈ r.flatten) (hy : y ∉ r.flatten) :
    status r x y = 3 := by
  rcases status_cases r x y with h | h | h | h
  · exact absurd h.2.1 hy
  · exact h.2.2
  · exact absurd hx h.1
  · exact absurd hx h.1

theorem status_of_not_mem_of_mem {r : Ranking} {x y : Elem} (hx : x ∉ r.flatten) (hy : y ∈ r.flatten) :
    status r x y = 4 := by
  rw [status_swap r y x, status_of_mem_of_not_mem hy hx]
  rfl

theorem status_eq_5_iff (r : Ranking) (x y : Elem) : status r x y = 5 ↔ x ∉ r.flatten ∧ y ∉ r.flatten := by
  rcases status_cases r x y with ⟨h1, h2, h⟩ | ⟨h1, h2, h⟩ | ⟨h1, h2, h⟩ | ⟨h1, h2, h⟩
  · exact ⟨fun e => by omega, fun e => absurd h1 e.1⟩
  · exact ⟨fun e => by omega, fun e => absurd h1 e.1⟩
  · exact ⟨fun e => by omega, fun e => absurd h2 e.2⟩
  · exact ⟨fun _ => ⟨h1, h2⟩, fun _ => h⟩

theorem status_cons (b : Bucket) (bs : Ranking) (x y : Elem) :
    status (b :: bs) x y =
      if x ∈ b then (if y ∈ b then 2 else if y ∈ bs.flatten then 0 else 3)
      else if y ∈ b then (if x ∈ bs.flatten then 1 else 4)
      else status bs x y := by
  unfold status
  simp only [bucketIdx]
  by_cases hx : x ∈ b <;> by_cases hy : y ∈ b
  · simp [hx, hy]
  · cases h : bucketIdx bs y
    · simp [hx, hy, bucketIdx_eq_none.mp h]
    · simp [hx, hy, mem_of_bucketIdx_eq_some h]
  · cases h : bucketIdx bs x
    · simp [hx, hy, bucketIdx_eq_none.mp h]
    · simp [hx, hy, mem_of_bucketIdx_eq_some h]
  · cases bucketIdx bs x <;> cases bucketIdx bs y <;> simp [hx, hy]

end Corankco
