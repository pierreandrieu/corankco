import Corankco.Model.Applicability
/-
  C14 — the refusal in closed form: `mayRefuse a S c = (!c && !relevant a S)` for every configuration (`mayRefuse_eq`):
  both definitions recurse in the same way through `bioConsert` and `parCons`, with `any` against `all`.
-/
namespace Corankco
namespace C14
open Model

theorem relevantAll_eq_all (S : Scheme) : ∀ st : List Alg, relevantAll st S = st.all fun a => relevant a S
  | [] => by simp [relevantAll]
  | a :: as => by simp [relevantAll, relevantAll_eq_all S as]

theorem mayRefuseAny_eq_any (S : Scheme) (c : Bool) :
    ∀ st : List Alg, mayRefuseAny st S c = st.any fun a => mayRefuse a S c
  | [] => by simp [mayRefuseAny]
  | a :: as => by simp [mayRefuseAny, mayRefuseAny_eq_any S c as]

mutual
theorem mayRefuse_eq (S : Scheme) (c : Bool) : ∀ a : Alg, mayRefuse a S c = (!c && !relevant a S)
  | .exact => by simp [mayRefuse, relevant]
  | .kwik => by simp [mayRefuse, relevant]
  | .copeland => by simp [mayRefuse, relevant]
  | .borda => rfl
  | .pickAPerm => rfl
  | .bioCo => rfl
  | .bioConsert st => by simp only [mayRefuse, relevant]; exact mayRefuseAny_eq S c st
  | .parCons aux => by simp only [mayRefuse, relevant]; exact mayRefuse_eq S c aux
theorem mayRefuseAny_eq (S : Scheme) (c : Bool) : ∀ l : List Alg, mayRefuseAny l S c = (!c && !relevantAll l S)
  | [] => by simp [mayRefuseAny, relevantAll]
  | a :: as => by
    simp only [mayRefuseAny, relevantAll, mayRefuse_eq S c a, mayRefuseAny_eq S c as, Bool.not_and, Bool.and_or_distrib_left]
end

theorem accepts (S : Scheme) (c : Bool) : ∀ a : Alg, relevant a S = true → mayRefuse a S c = false :=
  fun a h => by rw [mayRefuse_eq, h, Bool.not_true, Bool.and_false]

theorem acceptsAll (S : Scheme) (c : Bool) : ∀ l : List Alg, relevantAll l S = true → mayRefuseAny l S c = false :=
  fun l h => by rw [mayRefuseAny_eq, h, Bool.not_true, Bool.and_false]

theorem complete (S : Scheme) : ∀ a : Alg, mayRefuse a S true = false := fun a => mayRefuse_eq S true a

theorem completeAll (S : Scheme) : ∀ l : List Alg, mayRefuseAny l S true = false := fun l => mayRefuseAny_eq S true l

end C14
end Corankco
