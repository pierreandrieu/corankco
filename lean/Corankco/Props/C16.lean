import Corankco.Lemmas.C16
/-
  C16 — the dataset / ranking views are mutually consistent: for every ranking the constructor accepts, for every
  successfully constructed dataset, after every sequence of mutators, for the unified and the projected datasets.
  `C16_projection` carries a side condition `hk`; `C16_projection_raw` is the unconditional form.
-/
namespace Corankco
open Model Spec

/-- every ranking the constructor accepts reports views that agree with its buckets -/
theorem C16_ranking (buckets : List NBucket) (r : NRanking) (h : mkRanking buckets = .ok r) :
    rviewOK (viewOf r) = true :=
  C16L.rviewOK_viewOf (C16L.mkRanking_ok h).2

/-- every successfully constructed dataset satisfies the invariant -/
theorem C16_init (rs : List NRanking) (d : DS) (h : analyse rs = .ok d) : C16.inv (snapOf d) = true := by
  obtain ⟨rfl, hnd⟩ := C16L.analyse_ok h
  exact C16L.inv_mkDS hnd (C16L.isIntName_rebuilt rs) (C16L.canBeInt_rebuilt rs)

/-- each of the three mutators keeps the invariant (a failing one leaves the dataset as it was) -/
theorem C16_step (d : DS) (hd : C16.inv (snapOf d) = true) (op : DOp) :
    C16.inv (snapOf (applyDOp d op)) = true := by
  -- every mutator ends in `analyse`: its result satisfies the invariant like any constructed dataset
  have key : ∀ rs, C16.inv (snapOf (match analyse rs with | .ok d' => d' | .error _ => d)) = true := by
    intro rs
    cases h : analyse rs with
    | ok d' => exact C16_init rs d' h
    | error _ => exact hd
  cases op with
  | removeElements els => exact key _
  | removeRate n k => exact key _
  | removeEmpty => exact key _

/-- every reachable state: any sequence of mutators from any successfully constructed dataset -/
theorem C16_reachable (rs : List NRanking) (d : DS) (h : analyse rs = .ok d) (ops : List DOp) :
    C16.inv (snapOf (ops.foldl applyDOp d)) = true :=
  List.foldlRecOn ops applyDOp (C16_init rs d h) fun d hd op _ => C16_step d hd op

/-- unification: every unified ranking has consistent views and is the original followed by exactly its missing
    elements as one last bucket; the unified dataset satisfies the invariant and is complete -/
theorem C16_unified (rs : List NRanking) (d : DS) (h : analyse rs = .ok d) :
    unifiedOK d.universe d.rankings ((unifiedRankingsN d).map viewOf) = true ∧
    ∀ d', unifiedDataset d = .ok d' → (C16.inv (snapOf d') = true ∧ d'.complete = true) := by
  obtain ⟨rfl, hnd⟩ := C16L.analyse_ok h
  refine ⟨?_, ?_⟩
  · rw [C16L.unifiedRankingsN_eq]
    exact C16L.unifiedOK_unifyRankingN (by rw [C16L.mkDS_universe]; exact C16L.dedupN_nodup _) hnd
  · intro d' h'
    refine ⟨C16_init _ d' h', ?_⟩
    unfold unifiedDataset at h'
    obtain ⟨rfl, _⟩ := C16L.analyse_ok h'
    apply C16L.complete_of_same_elems (U := (C16L.mkDS (C16L.rebuilt rs)).universe)
    intro v hv x
    rw [C16L.unifiedRankingsN_eq, List.mem_map] at hv
    obtain ⟨r, hr, rfl⟩ := hv
    exact C16L.mem_unifyRankingN_flatten (fun y hy => C16L.mem_universe.2 (mem_flatten_flatten.2 ⟨r, hr, hy⟩)) x

/-- projection, unconditional form (kept elements selected on the raw names, as the implementation does): the projected
    dataset holds exactly the rankings meeting the kept set, in order, each equal up to `normName` to the original with
    the other elements removed; and the invariant holds. -/
theorem C16_projection_raw (rs : List NRanking) (d : DS) (h : analyse rs = .ok d) (keep : List Name) (d' : DS)
    (hp : subProblemN d keep = .ok d') :
    let expect := ((d.rankings.map fun r => (r.map fun b => b.filter fun x => keep.contains x).filter
        fun b => !b.isEmpty).filter fun r => !r.isEmpty).map fun r => r.map fun b => b.map normName
    let proj' := d'.rankings.map fun r => r.map fun b => b.map normName
    proj'.length = expect.length ∧ (proj'.zip expect).all (fun p => sameRankingN p.1 p.2) = true ∧
    C16.inv (snapOf d') = true := by
  intro expect proj'
  have hi := C16_init _ d' hp
  obtain ⟨rfl, _⟩ := C16L.analyse_ok h
  rw [C16L.subProblemN_eq] at hp
  obtain ⟨rfl, _⟩ := C16L.analyse_ok hp
  have := C16L.rebuilt_same (P := C16L.projR (fun x => keep.contains x) (C16L.rebuilt rs)) fun x hx =>
    C16L.isIntName_rebuilt rs x (List.mem_filter.1 (C16L.projR_names _ _ ▸ hx)).1
  exact ⟨this.1, this.2, hi⟩

/-- projection: keeps exactly the rankings meeting the kept set, relative order preserved, invariant holds.
    `projOK` decides which elements are kept up to `normName`, `sub_problem_from_elements` on the names as they are;
    `hk`: no element of the dataset is `normName`-equal to a kept name without being kept itself.  Without `hk` the
    first conjunct is false (instances below); sufficient for it: `C16L.projHyp_of_int`, `C16L.projHyp_of_inj`. -/
theorem C16_projection (rs : List NRanking) (d : DS) (h : analyse rs = .ok d) (keep : List Name) (d' : DS)
    (hk : ∀ x ∈ d.universe, (keep.map normName).contains (normName x) = true → keep.contains x = true)
    (hp : subProblemN d keep = .ok d') :
    projOK d.rankings keep d'.rankings = true ∧ C16.inv (snapOf d') = true := by
  obtain ⟨h1, h2, h3⟩ := C16_projection_raw rs d h keep d' hp
  refine ⟨?_, h3⟩
  obtain ⟨rfl, _⟩ := C16L.analyse_ok h
  unfold projOK
  simp only
  rw [C16L.projOK_expect_eq fun x hx => hk x (by rw [C16L.mem_universe]; exact hx), Bool.and_eq_true, beq_iff_eq]
  exact ⟨h1, h2⟩

/-! ### without `hk` the projection statement is false -/

section Refute
private def s7 : Name := .str ['7']
private def s07 : Name := .str ['0', '7']
private def sa : Name := .str ['a']

/-- int dataset, kept names containing the digit string "7": the model keeps only `8`, `projOK` expects `7` too -/
example : (match analyse [[[.int 7], [.int 8]]] with
    | .ok d => (match subProblemN d [s7, .int 8] with
      | .ok d' => !projOK d.rankings [s7, .int 8] d'.rankings && C16.inv (snapOf d')
      | .error _ => false)
    | .error _ => false) = true := by decide +kernel

/-- string dataset with a leading zero: "07" is not kept, but `normName "07" = normName "7"` -/
example : (match analyse [[[s07], [sa]]] with
    | .ok d => (match subProblemN d [s7, sa] with
      | .ok d' => !projOK d.rankings [s7, sa] d'.rankings && C16.inv (snapOf d')
      | .error _ => false)
    | .error _ => false) = true := by decide +kernel

/-- even with the kept names taken from the universe -/
example : (match analyse [[[s07], [s7], [sa]]] with
    | .ok d => (match subProblemN d [s7, sa] with
      | .ok d' => [s7, sa].all (d.universe.contains ·) && !projOK d.rankings [s7, sa] d'.rankings
      | .error _ => false)
    | .error _ => false) = true := by decide +kernel

/-- "07" and "7" in one all-integer-like ranking: the constructor raises (the projection theorems assume success) -/
example : (match analyse [[[s07], [s7]]] with | .error .valueError => true | _ => false) = true := by decide +kernel
example : (match analyse [[[s07], [s7], [sa]]] with
    | .ok d => (match subProblemN d [s7, s07] with | .error .valueError => true | _ => false)
    | .error _ => false) = true := by decide +kernel
end Refute

/-! ### non-vacuity: a concrete incomplete dataset with ties -/

section NonVacuity
private def rs0 : List NRanking := [[[.int 1, .int 2], [.int 3]], [[.int 3], [.int 4]], []]
private def rs1 : List NRanking :=
  [[[.int 1, .str ['2'], .int 1], [.str ['x']]], [[.str ['x']], [.str ['1']]]]

example : (match mkRanking [[.int 1, .int 2, .int 1], [.int 3]] with
    | .ok r => r == [[.int 1, .int 2], [.int 3]] && rviewOK (viewOf r) | .error _ => false) = true := by decide +kernel
example : (match mkRanking [[.int 1, .int 2], [.int 2]] with | .error .valueError => true | _ => false) = true := by
  decide +kernel

example : (match analyse rs0 with
    | .ok d => !d.complete && !d.withoutTies && d.universe.length == 4 && C16.inv (snapOf d)
    | .error _ => false) = true := by decide +kernel

/-- the invariant is not trivially true: a wrong completeness flag, matrix entry or id map violates it -/
example : (match analyse rs0 with
    | .ok d => !C16.inv { snapOf d with complete := true } &&
        !C16.inv { snapOf d with pos := (snapOf d).pos.map fun row => row.map (· + 1) } &&
        !C16.inv { snapOf d with idElem := (snapOf d).idElem.reverse.zip (snapOf d).univ |>.map fun p => (p.1.1, p.2) }
    | .error _ => false) = true := by decide +kernel

/-- each mutator succeeds on it and changes it -/
example : (match analyse rs0 with
    | .ok d =>
      (applyDOp d (.removeElements [.int 3])).rankings == [[[.int 1, .int 2]], [[.int 4]]] &&
      (applyDOp d (.removeRate 1 2)).rankings == [[[.int 3]], [[.int 3]]] &&
      (applyDOp d .removeEmpty).rankings.length == 2 &&
      C16.inv (snapOf ([DOp.removeEmpty, .removeElements [.int 3], .removeRate 1 2].foldl applyDOp d))
    | .error _ => false) = true := by decide +kernel

example : (match analyse rs0 with
    | .ok d => (match removeElements d [.int 1, .int 2, .int 3, .int 4] with
        | .error .emptyDataset => true | _ => false) &&
      (applyDOp d (.removeElements [.int 1, .int 2, .int 3, .int 4])).rankings == d.rankings
    | .error _ => false) = true := by decide +kernel

/-- unification succeeds: missing elements are appended, the result is complete -/
example : (match analyse rs0 with
    | .ok d => unifiedRankingsN d ==
        [[[.int 1, .int 2], [.int 3], [.int 4]], [[.int 3], [.int 4], [.int 1, .int 2]],
         [[.int 1, .int 2, .int 3, .int 4]]] &&
      (match unifiedDataset d with | .ok d' => d'.complete && !d.complete | .error _ => false)
    | .error _ => false) = true := by decide +kernel

/-- projection succeeds, the side condition of `C16_projection` holds, one ranking is dropped -/
example : (match analyse rs0 with
    | .ok d => (match subProblemN d [.int 1, .int 4, .int 9] with
      | .ok d' => d'.rankings == [[[.int 1]], [[.int 4]]] && projOK d.rankings [.int 1, .int 4, .int 9] d'.rankings &&
          decide (∀ x ∈ d.universe, ([Name.int 1, .int 4, .int 9].map normName).contains (normName x) = true →
            [Name.int 1, .int 4, .int 9].contains x = true)
      | .error _ => false)
    | .error _ => false) = true := by decide +kernel

/-- mixed names become strings, the duplicate disappears; projecting the proper string away gives ints -/
example : (match analyse rs1 with
    | .ok d => d.rankings == [[[.str ['1'], .str ['2']], [.str ['x']]], [[.str ['x']], [.str ['1']]]] &&
        C16.inv (snapOf d) && !d.complete && !d.withoutTies &&
        (match subProblemN d [.str ['1'], .str ['2']] with
          | .ok d' => d'.rankings == [[[.int 1, .int 2]], [[.int 1]]] &&
              projOK d.rankings [.str ['1'], .str ['2']] d'.rankings && C16.inv (snapOf d')
          | .error _ => false)
    | .error _ => false) = true := by decide +kernel
end NonVacuity

end Corankco
