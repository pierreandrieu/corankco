import Corankco.Spec.C19
import Corankco.Lemmas.Basic
import Batteries.Lean.Except
/-
  C19 — the constructor: `readPens` in closed form (`readPens_eq`) makes `newScheme` on a list of two lists the
  documented `Spec.newSpec` (`newScheme_two_lists`).  The proportionality scan is a `foldlM` over the zipped vectors
  (`equivScan_eq`) that succeeds iff the pairs satisfy `Cross`, which is `Spec.proportional` (`scan_none`,
  `equivGen_eq_spec`); pairs that are all in one non-degenerate ratio satisfy `Cross` (`cross_of_ratio`: the
  cancellation, for the pivot of the scan and for a rational factor).  `Scheme.scale k` scales every penalty
  (`pen_scale`); for `k ≠ 0` it changes neither the answer of the scan nor the nickname.
-/
namespace Corankco
namespace C19
open Model

/-! ### Constructor -/

def penOK (scale : Int) : PyVal → Bool :=
  fun p => match p.num? scale with | some x => decide (0 ≤ x) | none => false

def penVal (scale : Int) : PyVal → Int := fun p => (p.num? scale).getD 0

theorem numsOK_eq (scale : Int) (v : PyVal) : Spec.numsOK scale v = (Spec.entries v).all (penOK scale) := rfl
theorem values_eq (scale : Int) (v : PyVal) : Spec.values scale v = (Spec.entries v).map (penVal scale) := rfl

theorem map_penVal_nonneg (scale : Int) (l : List PyVal) (h : l.all (penOK scale) = true) :
    ∀ x ∈ l.map (penVal scale), 0 ≤ x := by
  intro x hx
  obtain ⟨p, hp, rfl⟩ := List.mem_map.1 hx
  have := List.all_eq_true.1 h p hp
  unfold penOK at this
  split at this
  · rename_i x hn
    rw [penVal, hn]
    exact of_decide_eq_true this
  · cases this

theorem readPens_eq (scale : Int) (l : List PyVal) :
    readPens scale l =
      if l.all (penOK scale) then .ok (l.map (penVal scale)) else .error .nonReal := by
  induction l with
  | nil => rfl
  | cons p ps ih =>
    simp only [readPens, ih, List.all_cons, List.map_cons, penOK, penVal]
    cases p.num? scale with
    | none => rfl
    | some x =>
      by_cases hx : x < 0
      · simp [hx, Int.not_le.2 hx]
      · simp only [hx, if_false, Int.not_lt.1 hx, decide_true, Bool.true_and, Option.getD_some]
        cases ps.all (penOK scale) <;> rfl

theorem assocOK_eq (S : Scheme) (hb0 : 0 ≤ S.b0) (hb1 : 0 ≤ S.b1) (ht2 : 0 ≤ S.t2) :
    assocOK S = Spec.constraintsOK S := by
  rw [Bool.eq_iff_iff]
  simp only [assocOK, Spec.constraintsOK, Bool.and_eq_true, Bool.not_eq_true', Bool.or_eq_false_iff,
    bne_eq_false_iff_eq, decide_eq_false_iff_not, beq_iff_eq, decide_eq_true_eq, beq_eq_false_iff_ne]
  omega

theorem valid_iff (S : Scheme) :
    S.Valid ↔ (∀ x ∈ S.bList ++ S.tList, 0 ≤ x) ∧ Spec.constraintsOK S = true := by
  simp only [Scheme.Valid, Scheme.bList, Scheme.tList, Spec.constraintsOK, List.cons_append, List.nil_append,
    List.forall_mem_cons, List.not_mem_nil, false_imp_iff, implies_true, and_true, Bool.and_eq_true, beq_iff_eq,
    decide_eq_true_eq, and_assoc]

/-- the fields of `Scheme.ofLists` are `getD _ 0`, so no length is needed here -/
theorem constraintsOK_valid {b t : List Int} (hb : ∀ x ∈ b, 0 ≤ x) (ht : ∀ x ∈ t, 0 ≤ x)
    (h : Spec.constraintsOK (Scheme.ofLists b t) = true) : (Scheme.ofLists b t).Valid :=
  (valid_iff _).2 ⟨by simp only [Scheme.bList, Scheme.tList, Scheme.ofLists, List.cons_append, List.nil_append,
    List.forall_mem_cons, List.getD_eq_getElem?_getD, getElem?_getD_nonneg hb, getElem?_getD_nonneg ht,
    List.not_mem_nil, false_imp_iff, implies_true, and_self], h⟩

theorem newScheme_two_lists (scale : Int) (l0 l1 : List PyVal) :
    newScheme scale (.list [.list l0, .list l1]) = Spec.newSpec scale (.list [.list l0, .list l1]) := by
  simp only [newScheme, PyVal.asList?, Spec.newSpec, numsOK_eq, values_eq, Spec.shapeOK, Spec.entries, readPens_eq,
    List.all_append, List.map_append]
  by_cases h : l0.length = 6 ∧ l1.length = 6
  · -- with both lengths the literal `6` every test but `assocOK` computes
    rw [List.take_left' ((List.length_map _).trans h.1), List.drop_left' ((List.length_map _).trans h.1), h.1, h.2]
    cases a0 : l0.all (penOK scale) with
    | false => rfl
    | true =>
      cases a1 : l1.all (penOK scale) with
      | false => rfl
      | true =>
        have nb := map_penVal_nonneg scale l0 a0
        have nt := map_penVal_nonneg scale l1 a1
        rw [← assocOK_eq (Scheme.ofLists _ _) (getElem?_getD_nonneg nb 0) (getElem?_getD_nonneg nb 1)
          (getElem?_getD_nonneg nt 2)]
        rfl
  · simp [Decidable.not_and_iff_not_or_not.1 h]

/-! ### Multiplication, homogeneity -/

theorem scale_valid (S : Scheme) (hS : S.Valid) (k : Int) (hk : 0 < k) : (Scheme.scale k S).Valid := by
  have hk' : 0 ≤ k := Int.le_of_lt hk
  -- the entries of `scale k S` are `(S.bList ++ S.tList).map (k * ·)` by computation
  refine (valid_iff _).2
    ⟨List.forall_mem_map.2 fun x hx => Int.mul_nonneg hk' (((valid_iff S).1 hS).1 x hx), ?_⟩
  simp only [Spec.constraintsOK, Scheme.scale, hS.b0, hS.t2, hS.t01, hS.t34, Int.mul_zero, beq_self_eq_true,
    Bool.and_true, Bool.true_and, Bool.and_eq_true, decide_eq_true_eq]
  exact ⟨Int.mul_pos hk hS.b1_pos, Int.mul_le_mul_of_nonneg_left hS.b34 hk'⟩

theorem ofNums_valid {S : Scheme} (h : S.Valid) : ofNums S = .ok S := by
  obtain ⟨nn, hc⟩ := (valid_iff S).1 h
  have hn : (S.bList ++ S.tList).any (· < 0) = false :=
    List.any_eq_false.2 fun x hx => by simpa using nn x hx
  rw [ofNums, ← List.any_append, hn,
    assocOK_eq S (Int.le_of_eq h.b0.symm) (Int.le_of_lt h.b1_pos) (Int.le_of_eq h.t2.symm), hc]
  rfl

theorem scale_B (k : Int) (S : Scheme) (i : Nat) : (Scheme.scale k S).B i = k * S.B i := by
  match i with
  | 0 | 1 | 2 | 3 | 4 | 5 => rfl
  | _ + 6 => exact (Int.mul_zero k).symm

theorem scale_T (k : Int) (S : Scheme) (i : Nat) : (Scheme.scale k S).T i = k * S.T i := by
  match i with
  | 0 | 1 | 2 | 3 | 4 | 5 => rfl
  | _ + 6 => exact (Int.mul_zero k).symm

theorem pen_scale (k : Int) (S : Scheme) (r c : Ranking) (x y : Elem) :
    Spec.pen (Scheme.scale k S) r c x y = k * Spec.pen S r c x y := by
  unfold Spec.pen
  split
  · simp only [scale_B, scale_T, apply_ite (k * ·)]
  · exact (Int.mul_zero k).symm

theorem kemenyOne_scale (k : Int) (S : Scheme) (c r : Ranking) :
    Spec.kemenyOne (Scheme.scale k S) c r = k * Spec.kemenyOne S c r :=
  (isum_map_congr fun p _ => pen_scale k S r c p.1 p.2).trans (isum_map_mul ..)

/-! ### Proportionality scan -/

def Cross (ps : List (Int × Int)) : Prop := ∀ p ∈ ps, (p.1 = 0 ↔ p.2 = 0) ∧ ∀ q ∈ ps, p.1 * q.2 = q.1 * p.2

theorem proportional_iff (l1 l2 : List Int) : Spec.proportional l1 l2 = true ↔ Cross (l1.zip l2) := by
  simp only [Spec.proportional, Cross, Bool.and_eq_true, List.all_eq_true, beq_iff_eq, forall_and]
  refine and_congr_left' (forall₂_congr fun p _ => ?_)
  rw [Bool.eq_iff_iff, beq_iff_eq, beq_iff_eq]

theorem cross_of_ratio {c : Int × Int} (h1 : c.1 ≠ 0) (h2 : c.2 ≠ 0) {ps : List (Int × Int)}
    (h : ∀ p ∈ ps, p.1 * c.2 = c.1 * p.2) : Cross ps := by
  intro p hp
  have e := h p hp
  refine ⟨?_, fun q hq => ?_⟩
  · simpa [Int.mul_eq_zero, h1, h2] using congrArg (· = 0) e
  · apply Int.eq_of_mul_eq_mul_right (Int.mul_ne_zero h1 h2)
    calc p.1 * q.2 * (c.1 * c.2) = p.1 * c.2 * (c.1 * q.2) := by ac_rfl
      _ = c.1 * p.2 * (q.1 * c.2) := by rw [e, h q hq]
      _ = q.1 * p.2 * (c.1 * c.2) := by ac_rfl

theorem cross_cons_zero {p : Int × Int} (h : p.1 = 0 ∧ p.2 = 0) (ps : List (Int × Int)) :
    Cross (p :: ps) ↔ Cross ps := by
  simp only [Cross, List.forall_mem_cons, h.1, h.2, Int.mul_zero, Int.zero_mul, implies_true, and_self, true_and]

theorem cross_cons {c : Int × Int} (h1 : c.1 ≠ 0) (h2 : c.2 ≠ 0) (ps : List (Int × Int)) :
    Cross (c :: ps) ↔ ∀ p ∈ ps, (p.1 = 0 ↔ p.2 = 0) ∧ p.1 * c.2 = c.1 * p.2 :=
  ⟨fun h p hp => ⟨(h p (List.mem_cons_of_mem _ hp)).1, (h p (List.mem_cons_of_mem _ hp)).2 c List.mem_cons_self⟩,
    fun h => cross_of_ratio h1 h2 (List.forall_mem_cons.2 ⟨rfl, fun p hp => (h p hp).2⟩)⟩

def stepP (co : Coef) (p : Int × Int) : Option Coef := equivStep co p.1 p.2

theorem equivScan_eq (co : Coef) (l1 l2 : List Int) : equivScan co l1 l2 = (l1.zip l2).foldlM stepP co := by
  induction l1 generalizing co l2 with
  | nil => simp [equivScan]
  | cons a as ih =>
    cases l2 with
    | nil => simp [equivScan]
    | cons b bs =>
      rw [equivScan, List.zip_cons_cons, List.foldlM_cons, stepP]
      cases equivStep co a b with
      | none => rfl
      | some co' => exact ih co' bs

theorem equivStep_some (c : Int × Int) (a b : Int) :
    equivStep (some c) a b =
      if (a = 0 ↔ b = 0) ∧ a * c.2 = c.1 * b then some (some c) else none := by
  unfold equivStep
  by_cases ha : a = 0 <;> by_cases hb : b = 0 <;> simp [ha, hb]

theorem equivStep_none (a b : Int) :
    equivStep none a b =
      if a = 0 ∧ b = 0 then some none else if a ≠ 0 ∧ b ≠ 0 then some (some (a, b)) else none := by
  unfold equivStep
  by_cases ha : a = 0 <;> by_cases hb : b = 0 <;> simp [ha, hb]

theorem scan_some (c : Int × Int) (ps : List (Int × Int)) :
    (ps.foldlM stepP (some c)).isSome = true ↔ ∀ p ∈ ps, (p.1 = 0 ↔ p.2 = 0) ∧ p.1 * c.2 = c.1 * p.2 := by
  induction ps with
  | nil => exact iff_of_true rfl nofun
  | cons p ps ih =>
    rw [List.foldlM_cons, stepP, equivStep_some, List.forall_mem_cons]
    by_cases h : (p.1 = 0 ↔ p.2 = 0) ∧ p.1 * c.2 = c.1 * p.2
    · rw [if_pos h]
      exact ih.trans (and_iff_right h).symm
    · rw [if_neg h]
      exact iff_of_false Bool.false_ne_true fun h' => h h'.1

/-- from the unset coefficient: the first non-zero pair becomes the pivot -/
theorem scan_none (ps : List (Int × Int)) : (ps.foldlM stepP none).isSome = true ↔ Cross ps := by
  induction ps with
  | nil => simp [Cross]
  | cons p ps ih =>
    rw [List.foldlM_cons, stepP, equivStep_none]
    by_cases h0 : p.1 = 0 ∧ p.2 = 0
    · rw [if_pos h0, cross_cons_zero h0]
      exact ih
    · rw [if_neg h0]
      by_cases h1 : p.1 ≠ 0 ∧ p.2 ≠ 0
      · rw [if_pos h1, cross_cons h1.1 h1.2]
        exact scan_some p ps
      · rw [if_neg h1]
        have : ¬ (p.1 = 0 ↔ p.2 = 0) := fun e => h1 ⟨fun a => h0 ⟨a, e.mp a⟩, fun b => h0 ⟨e.mpr b, b⟩⟩
        exact iff_of_false Bool.false_ne_true fun h => this (h p List.mem_cons_self).1

theorem equivGen_eq_spec (stop : Nat) (S1 S2 : Scheme) : equivGen stop S1 S2 = Spec.equivSpec stop S1 S2 := by
  rw [Bool.eq_iff_iff, Spec.equivSpec, proportional_iff, ← scan_none,
    List.zip_append (by rw [List.length_take, List.length_take]; rfl), List.foldlM_append]
  simp only [equivGen, equivScan_eq]
  cases List.foldlM stepP none ((S1.bList.take stop).zip (S2.bList.take stop)) with
  | none => rfl
  | some co => rfl

theorem proportional_map_mul {k : Int} (hk : k ≠ 0) (l1 l2 : List Int) :
    Spec.proportional (l1.map (k * ·)) l2 = Spec.proportional l1 l2 := by
  rw [Bool.eq_iff_iff, proportional_iff, proportional_iff, List.zip_map_left]
  simp only [Cross, List.forall_mem_map, Prod.map_fst, Prod.map_snd, id, Int.mul_eq_zero, hk, false_or,
    Int.mul_assoc, Int.mul_eq_mul_left_iff hk]

theorem isEquivalentTo_scale (S S' : Scheme) {k : Int} (hk : k ≠ 0) :
    isEquivalentTo (Scheme.scale k S) S' = isEquivalentTo S S' := by
  unfold isEquivalentTo
  rw [equivGen_eq_spec, equivGen_eq_spec]
  -- the entries of `scale k S` are those of `S` under `(k * ·)` by computation
  exact proportional_map_mul hk (S.bList ++ S.tList) _

theorem nickname_scale {S : Scheme} {k : Int} (hk : k ≠ 0) : nickname (Scheme.scale k S) = nickname S := by
  simp only [nickname, isEquivalentTo_scale _ _ hk]

end C19
end Corankco
