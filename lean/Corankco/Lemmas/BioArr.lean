import Corankco.Lemmas.Basic
import Corankco.Spec.Bio
/-
  Both searches of BioConsert read an array through the sums of its cells from a gap outwards, `around arr g`:
  `addTo add b` is `around add (b + 1)`, `changeTo change b` is `around change b` when cell `b` is empty.  A point
  update `addAt` of cell `k` adds a step at `k` (`stepAt`) to these sums, on whichever side of the gap `k` lies
  (`around_addAt_right`, `around_addAt_left`).
-/
namespace Corankco
open Model Spec

@[simp] theorem length_addAt (l : List Int) (k : Nat) (v : Int) : (addAt l k v).length = l.length := by
  simp [addAt]

theorem getD_addAt {l : List Int} {k : Nat} {v : Int} {i : Nat} (hk : k < l.length) :
    (addAt l k v).getD i 0 = l.getD i 0 + if i = k then v else 0 := by
  simp only [addAt, List.getD_eq_getElem?_getD, List.getElem?_modify]
  by_cases h : i = k
  · subst h; simp [hk]
  · simp [h, Ne.symm h]

theorem sumRange_single (l : List Int) (k : Nat) : sumRange l k k = l.getD k 0 := by
  simp [sumRange]

theorem sumRange_succ_right {l : List Int} {lo hi : Nat} (h : lo ≤ hi + 1) :
    sumRange l lo (hi + 1) = sumRange l lo hi + l.getD (hi + 1) 0 := by
  unfold sumRange
  rw [Nat.succ_sub h, List.range_succ, List.map_append, isum_append, List.map_singleton, Nat.add_sub_cancel' h,
    isum_cons, isum_nil, Int.add_zero]

theorem sumRange_succ_left {l : List Int} {lo hi : Nat} (h : lo ≤ hi) :
    sumRange l lo hi = l.getD lo 0 + sumRange l (lo + 1) hi := by
  unfold sumRange
  rw [Nat.succ_sub h, Nat.add_sub_add_right, List.range_succ_eq_map]
  simp only [List.map_cons, isum_cons, List.map_map, Nat.add_zero, Function.comp_def, Nat.add_right_comm lo 1]
  rfl

theorem sumRange_congr {l l' : List Int} {lo hi : Nat}
    (h : ∀ m, lo ≤ m → m ≤ hi → l.getD m 0 = l'.getD m 0) : sumRange l lo hi = sumRange l' lo hi := by
  unfold sumRange
  apply isum_map_congr
  intro i hi'
  exact h _ (Nat.le_add_right lo i) (Nat.le_of_lt_succ (Nat.add_lt_of_lt_sub' (List.mem_range.mp hi')))

theorem sumRange_of_lt {l : List Int} {lo hi : Nat} (h : hi < lo) : sumRange l lo hi = 0 := by
  simp [sumRange, Nat.sub_eq_zero_of_le h]

theorem sumRange_addAt {l : List Int} {k : Nat} {v : Int} (hk : k < l.length) (lo hi : Nat) :
    sumRange (addAt l k v) lo hi = sumRange l lo hi + if lo ≤ k ∧ k ≤ hi then v else 0 := by
  induction hi with
  | zero =>
    rcases Nat.eq_zero_or_pos lo with e | e
    · subst e
      rw [sumRange_single, sumRange_single, getD_addAt hk]
      simp only [Nat.zero_le, true_and, Nat.le_zero_eq, eq_comm]
    · rw [sumRange_of_lt e, sumRange_of_lt e, if_neg (by omega)]
      rfl
  | succ hi ih =>
    rcases Nat.lt_or_ge (hi + 1) lo with e | e
    · rw [sumRange_of_lt e, sumRange_of_lt e, if_neg fun h => Nat.not_le.mpr e (Nat.le_trans h.1 h.2)]
      rfl
    · rw [sumRange_succ_right e, sumRange_succ_right e, ih, getD_addAt hk]
      by_cases h : hi + 1 = k
      · subst h
        rw [if_neg fun h => Nat.not_succ_le_self _ h.2, if_pos rfl, if_pos ⟨e, Nat.le_refl _⟩, Int.add_zero,
          Int.add_assoc]
      · have hc : k ≤ hi + 1 ↔ k ≤ hi :=
          ⟨fun h' => Nat.le_of_lt_succ (Nat.lt_of_le_of_ne h' (Ne.symm h)), Nat.le_succ_of_le⟩
        simp only [hc, if_neg h, Int.add_zero, Int.add_right_comm]

/-- the sum of the cells from the gap just before cell `g` to cell `j`, on either side -/
def around (arr : List Int) (g j : Nat) : Int := if g ≤ j then sumRange arr g j else sumRange arr j (g - 1)

def stepAt (k i : Nat) (v : Int) : Int := if k ≤ i then v else 0

theorem stepAt_of_le {k i : Nat} (h : k ≤ i) (v : Int) : stepAt k i v = v := if_pos h

theorem stepAt_of_lt {k i : Nat} (h : i < k) (v : Int) : stepAt k i v = 0 := if_neg (Nat.not_le.mpr h)

theorem stepAt_zero (k i : Nat) : stepAt k i 0 = 0 := ite_self 0

theorem stepAt_add (k i : Nat) (v w : Int) : stepAt k i (v + w) = stepAt k i v + stepAt k i w := by
  unfold stepAt; split <;> rfl

theorem stepAt_sub (k i : Nat) (v w : Int) : stepAt k i (v - w) = stepAt k i v - stepAt k i w := by
  unfold stepAt; split <;> rfl

theorem around_self (arr : List Int) (g : Nat) : around arr g g = arr.getD g 0 := by
  rw [around, if_pos (Nat.le_refl g), sumRange_single]

theorem around_replicate (m g j : Nat) : around (List.replicate m 0) g j = 0 := by
  have h : ∀ lo hi, sumRange (List.replicate m 0) lo hi = 0 := fun lo hi =>
    (isum_map_congr fun i _ => by
      simp only [List.getD_eq_getElem?_getD, List.getElem?_replicate]; split <;> rfl).trans (isum_map_zero _)
  simp only [around, h, ite_self]

theorem around_addAt_right {l : List Int} {k : Nat} {v : Int} (hk : k < l.length) {g j : Nat} (h : g ≤ k) :
    around (addAt l k v) g j = around l g j + stepAt k j v := by
  unfold around stepAt
  split <;> rw [sumRange_addAt hk]
  · simp only [h, true_and]
  · rw [if_neg (by omega), if_neg (by omega)]

/-- before the gap the loop writes differences `near - far`, which the targets `j ≤ k` see: a step of `far - near` on a
    base lowered by as much -/
theorem around_addAt_left {l : List Int} {k : Nat} {v w : Int} (hk : k < l.length) {g j : Nat} (h : k < g) :
    around (addAt l k (w - v)) g j = around l g j + (stepAt (k + 1) j (v - w) - (v - w)) := by
  unfold around
  split <;> rw [sumRange_addAt hk]
  · next hj => rw [if_neg (by omega), stepAt_of_le (Nat.le_trans h hj), Int.sub_self]
  · simp only [Nat.le_sub_one_of_lt h, and_true]
    split
    · next hj => rw [stepAt_of_lt (Nat.lt_succ_of_le hj), Int.zero_sub, Int.neg_sub]
    · next hj => rw [stepAt_of_le (Nat.not_le.mp hj), Int.sub_self]

/-- the guarded write `if k != 0: l[k - 1] += w - v` -/
theorem around_addAt_pred {l : List Int} {k : Nat} {v w : Int} (hk : k ≤ l.length) {g j : Nat} (h : k ≤ g) :
    around (if k ≠ 0 then addAt l (k - 1) (w - v) else l) g j = around l g j + (stepAt k j (v - w) - (v - w)) := by
  cases k with
  | zero => rw [if_neg (· rfl), stepAt_of_le (Nat.zero_le j), Int.sub_self, Int.add_zero]
  | succ k =>
    rw [if_pos (Nat.succ_ne_zero k)]
    exact around_addAt_left hk h

theorem addTo_eq_around (add : List Int) (b p : Nat) : addTo add b p = around add (b + 1) p := rfl

theorem changeTo_eq_around {change : List Int} {b j : Nat} (h0 : change.getD b 0 = 0) (hjb : j ≠ b) :
    changeTo change b j = around change b j := by
  unfold changeTo around
  split
  · next g => rw [if_pos (Nat.le_of_lt g), sumRange_succ_left (Nat.le_of_lt g), h0, Int.zero_add]
  · next g => rw [if_neg fun h => g (Nat.lt_of_le_of_ne h hjb.symm)]

end Corankco
