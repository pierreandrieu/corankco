import Corankco.Props.C08
import Corankco.Props.C09
import Corankco.Props.C03
import Corankco.Props.C04
/-
  C08 / C09 / C03 / C04 for BioConsert with no hypothesis on the exit flags of the sweep loops: the partial-correctness
  results composed with termination (`C08_loop_terminates`), above an explicit fuel bound (`C08_unconditional_fuel`,
  `C08_default_fuel`) and hence for every fuel large enough (`C08_unconditional`, `C08_default`).
-/
namespace Corankco
open Model Spec

/-- BioConsert on any dense departure rows, with an explicit fuel bound (above the distance of the score of every
    departure row to the lower bound `L4.lower` of all scores): the run returns at least one (exactly one if asked)
    well-formed ranking, each a local optimum, and reports their true non-negative score, which is at most the Kemeny
    score of every ranking of `starts` that a departure row dominates (`hstarts`). -/
theorem C08_unconditional_fuel (S : Scheme) (hS : S.Valid) (D : Dataset) (deps : List (List Nat)) (hne : deps ≠ [])
    (hdeps : ∀ r ∈ deps, DenseN r ∧ r.length = (univOf D).length) (amo : Bool) (τ : Int) (hτ : 0 ≤ τ)
    (starts : List Ranking)
    (hstarts : ∀ s ∈ starts, ∃ dep ∈ deps, scoreVecN (costMatrix S (getPositions D)) dep ≤ Spec.kemeny S D s)
    (fuel : Nat)
    (hf : ∀ r ∈ deps, (scoreVecN (costMatrix S (getPositions D)) r -
        L4.lower (costMatrix S (getPositions D)) (univOf D).length).toNat + 1 ≤ fuel) :
    let out := (bioConsertRun S D deps amo τ fuel).1
    C03.holds D amo out.1 = true ∧ C08.holds S D τ out.1 = true ∧
    (∃ m, out.2 = some m ∧ C04.holds S D out.1 (some m) = true ∧ C09.holds S D out.1 m starts = true) := by
  intro out
  have hfl : ∀ r ∈ (bioConsertRun S D deps amo τ fuel).2, r.2.2 = true :=
    C08_loop_terminates _ τ hτ _ (mirror_costMatrix S D) deps hdeps fuel hf
  refine ⟨C03_bioconsert S hS D deps hne hdeps amo τ hτ fuel hfl,
    (C08_run S hS D deps amo τ hτ fuel hdeps hfl).2, ?_⟩
  obtain ⟨m, h1, hne', _, h4⟩ := C04_bioconsert S hS D deps amo τ hτ fuel hne hdeps hfl
  obtain ⟨c, hc⟩ := List.exists_mem_of_ne_nil _ hne'
  simp only [C04.holds, C09.holds, Bool.and_eq_true, decide_eq_true_eq, List.all_eq_true, beq_iff_eq]
  refine ⟨m, h1, ⟨h4 c hc ▸ C04_nonneg S hS D c, h4⟩, h4, fun s hs => ?_⟩
  obtain ⟨dep, hdep, hle⟩ := hstarts s hs
  exact Int.le_trans (C09_best S D deps amo τ hτ fuel hdeps hfl m h1 dep hdep) hle

/-- the same for every fuel large enough -/
theorem C08_unconditional (S : Scheme) (hS : S.Valid) (D : Dataset) (deps : List (List Nat)) (hne : deps ≠ [])
    (hdeps : ∀ r ∈ deps, DenseN r ∧ r.length = (univOf D).length) (amo : Bool) (τ : Int) (hτ : 0 ≤ τ)
    (starts : List Ranking)
    (hstarts : ∀ s ∈ starts, ∃ dep ∈ deps, scoreVecN (costMatrix S (getPositions D)) dep ≤ Spec.kemeny S D s) :
    ∃ fuel0, ∀ fuel, fuel0 ≤ fuel →
      let out := (bioConsertRun S D deps amo τ fuel).1
      C03.holds D amo out.1 = true ∧ C08.holds S D τ out.1 = true ∧
      (∃ m, out.2 = some m ∧ C04.holds S D out.1 (some m) = true ∧ C09.holds S D out.1 m starts = true) :=
  eventually_of_bound (C08_unconditional_fuel S hS D deps hne hdeps amo τ hτ starts hstarts)

/-- every default starting point with a non-empty universe is well formed and its row is a default departure row
    (the hypothesis shape of `C09_holds`) -/
theorem C09_defaultStarts_rows (D : Dataset) (hD : ∀ r ∈ D, r.flatten.Nodup) (hDne : ∀ r ∈ D, ∀ b ∈ r, b ≠ [])
    (hu : univOf D ≠ []) :
    ∀ s ∈ defaultStarts D, wellFormedRanking (univOf D) s = true ∧ rowOf (univOf D) s ∈ departuresDefault D := by
  intro s hs
  rcases List.mem_append.mp hs with hs | hs
  · refine ⟨?_, mem_departuresDefault.mpr (.inl ⟨s, hs, rfl⟩)⟩
    obtain ⟨r, hr, rfl⟩ := List.mem_map.mp hs
    exact wellFormed_unifyRanking hr (hDne r hr) (hD r hr)
  · rw [List.mem_singleton.mp hs]
    exact ⟨wellFormed_allTied _ (nodup_univOf D) hu, mem_departuresDefault.mpr (.inr (rowOf_allTied _))⟩

/-- every default starting point (each unified input ranking, and the all-tied ranking) is dominated by a default
    departure row -/
theorem C09_defaultStarts_dominated (S : Scheme) (hS : S.Valid) (D : Dataset)
    (hD : ∀ r ∈ D, r.flatten.Nodup) (hDne : ∀ r ∈ D, ∀ b ∈ r, b ≠ []) :
    ∀ s ∈ defaultStarts D, ∃ dep ∈ departuresDefault D,
      scoreVecN (costMatrix S (getPositions D)) dep ≤ Spec.kemeny S D s := by
  intro s hs
  by_cases hu : univOf D = []
  -- empty universe: the all-tied ranking `[[]]` is not well formed, but the empty row scores 0 and scores are ≥ 0
  · refine ⟨_, mem_departuresDefault.mpr (.inr rfl), ?_⟩
    rw [hu]
    exact C04_nonneg S hS D s
  · obtain ⟨w, hrow⟩ := C09_defaultStarts_rows D hD hDne hu s hs
    exact ⟨_, hrow, Int.le_of_eq (C09_score_rowOf S hS D s w)⟩

/-- default BioConsert on any dataset of well-formed rankings, with the explicit fuel bound of `C08_unconditional_fuel`:
    the run returns local optima, reports their true score, and is never worse than any of its starting points.  The
    universe may be empty (`D = [[]]`): the all-tied start `[[]]` is then not well formed but still scores at least the
    reported score. -/
theorem C08_default_fuel (S : Scheme) (hS : S.Valid) (D : Dataset)
    (hD : ∀ r ∈ D, r.flatten.Nodup) (hDne : ∀ r ∈ D, ∀ b ∈ r, b ≠ []) (amo : Bool) (τ : Int) (hτ : 0 ≤ τ)
    (fuel : Nat)
    (hf : ∀ r ∈ departuresDefault D, (scoreVecN (costMatrix S (getPositions D)) r -
        L4.lower (costMatrix S (getPositions D)) (univOf D).length).toNat + 1 ≤ fuel) :
    let out := (bioConsertRun S D (departuresDefault D) amo τ fuel).1
    C03.holds D amo out.1 = true ∧ C08.holds S D τ out.1 = true ∧
    (∃ m, out.2 = some m ∧ C04.holds S D out.1 (some m) = true ∧
          C09.holds S D out.1 m (defaultStarts D) = true) :=
  C08_unconditional_fuel S hS D (departuresDefault D) (departuresDefault_ne_nil D)
    (C09_departuresDefault_dense D fun r hr => ⟨hDne r hr, hD r hr⟩) amo τ hτ (defaultStarts D)
    (C09_defaultStarts_dominated S hS D hD hDne) fuel hf

set_option linter.unusedVariables false in
/-- the same for every fuel large enough (`hne` is not needed: the all-zero departure row is always present) -/
theorem C08_default (S : Scheme) (hS : S.Valid) (D : Dataset) (hne : D ≠ [])
    (hD : ∀ r ∈ D, r.flatten.Nodup) (hDne : ∀ r ∈ D, ∀ b ∈ r, b ≠ []) (amo : Bool) (τ : Int) (hτ : 0 ≤ τ) :
    ∃ fuel0, ∀ fuel, fuel0 ≤ fuel →
      let out := (bioConsertRun S D (departuresDefault D) amo τ fuel).1
      C03.holds D amo out.1 = true ∧ C08.holds S D τ out.1 = true ∧
      (∃ m, out.2 = some m ∧ C04.holds S D out.1 (some m) = true ∧
            C09.holds S D out.1 m (defaultStarts D) = true) :=
  eventually_of_bound (C08_default_fuel S hS D hD hDne amo τ hτ)

/-- Non-vacuity: the 3-element dataset of C09 (a tie, an unranked element, a valid non-preset scheme).  The fuel bounds
    of the three default departure rows are 2, 1 and 6, so `C08_default_fuel` applies with fuel 6. -/
example :
    let S : Scheme := ⟨0, 2, 1, 1, 3, 1, 2, 2, 0, 3, 3, 1⟩
    let D : Dataset := [[[0, 1], [2]], [[2], [0]]]
    let t := costMatrix S (getPositions D)
    S.Valid ∧ (∀ r ∈ D, r.flatten.Nodup) ∧ (∀ r ∈ D, ∀ b ∈ r, b ≠ []) ∧
    ((departuresDefault D).map fun r => (scoreVecN t r - L4.lower t (univOf D).length).toNat + 1) = [2, 1, 6] ∧
    (bioConsertRun S D (departuresDefault D) false 0 6).1 = ([[[0], [1], [2]], [[2], [0], [1]]], some 7) ∧
    defaultStarts D = [[[0, 1], [2]], [[2], [0], [1]], [[0, 1, 2]]] ∧
    (defaultStarts D).map (Spec.kemeny S D) = [8, 7, 12] := by
  decide +kernel

/-- the conclusion of `C08_default_fuel` on that instance, obtained from the theorem (not by evaluation) -/
example :
    let S : Scheme := ⟨0, 2, 1, 1, 3, 1, 2, 2, 0, 3, 3, 1⟩
    let D : Dataset := [[[0, 1], [2]], [[2], [0]]]
    let out := (bioConsertRun S D (departuresDefault D) false 0 6).1
    C03.holds D false out.1 = true ∧ C08.holds S D 0 out.1 = true ∧
    (∃ m, out.2 = some m ∧ C04.holds S D out.1 (some m) = true ∧
          C09.holds S D out.1 m (defaultStarts D) = true) :=
  C08_default_fuel _ (by decide +kernel) _ (by decide +kernel) (by decide +kernel) false 0 (by decide +kernel) 6 (by decide +kernel)

/-- the empty universe is covered: `D = [[]]` (one ranking without any bucket) satisfies the hypotheses of
    `C08_default`; the all-tied start `[[]]` is not well formed, and the run returns the empty ranking with score 0 -/
example :
    let S : Scheme := ⟨0, 2, 1, 1, 3, 1, 2, 2, 0, 3, 3, 1⟩
    let D : Dataset := [[]]
    let out := (bioConsertRun S D (departuresDefault D) false 0 1).1
    D ≠ [] ∧ (∀ r ∈ D, r.flatten.Nodup) ∧ (∀ r ∈ D, ∀ b ∈ r, b ≠ []) ∧ univOf D = [] ∧
    defaultStarts D = [[], [[]]] ∧ wellFormedRanking (univOf D) [[]] = false ∧ out = ([[]], some 0) ∧
    C03.holds D false out.1 = true ∧ C08.holds S D 0 out.1 = true ∧ C04.holds S D out.1 out.2 = true ∧
    C09.holds S D out.1 0 (defaultStarts D) = true := by
  decide +kernel

end Corankco
