import Corankco.Model.DatasetOps
import Batteries.Data.List.Basic
/-
  C17 — dataset equality: `multisetEq` is equality of multisets of rankings up to `sameRankingN`
  (`multisetEq_iff_cnt`, where `cnt r l` counts the rankings of `l` equal to `r`).
-/
namespace Corankco
namespace C17
open Model

theorem sameBucket_iff (a b : NBucket) : sameBucket a b = true ↔ ∀ x, x ∈ a ↔ x ∈ b := by
  simp only [sameBucket, Bool.and_eq_true, List.all_eq_true, List.contains_iff_mem, iff_iff_implies_and_implies,
    forall_and]

theorem sameBucket_refl (a : NBucket) : sameBucket a a = true := (sameBucket_iff a a).2 fun _ => Iff.rfl

theorem sameBucket_comm (a b : NBucket) : sameBucket a b = sameBucket b a := by
  simp only [sameBucket, Bool.and_comm]

theorem sameBucket_trans {a b c : NBucket} (h1 : sameBucket a b = true) (h2 : sameBucket b c = true) :
    sameBucket a c = true := by
  rw [sameBucket_iff] at *
  exact fun x => (h1 x).trans (h2 x)

theorem sameBucket_of_perm {a b : NBucket} (h : a.Perm b) : sameBucket a b = true :=
  (sameBucket_iff a b).2 fun _ => h.mem_iff

@[simp] theorem sameRankingN_nil_nil : sameRankingN [] [] = true := rfl
@[simp] theorem sameRankingN_nil_cons (y : NBucket) (ys : NRanking) : sameRankingN [] (y :: ys) = false := rfl
@[simp] theorem sameRankingN_cons_nil (x : NBucket) (xs : NRanking) : sameRankingN (x :: xs) [] = false := rfl
theorem sameRankingN_cons_cons (x y : NBucket) (xs ys : NRanking) :
    sameRankingN (x :: xs) (y :: ys) = (sameBucket x y && sameRankingN xs ys) := by
  simp only [sameRankingN, List.length_cons, List.zip_cons_cons, List.all_cons]
  cases sameBucket x y <;> simp

theorem sameRankingN_iff (a b : NRanking) :
    sameRankingN a b = true ↔ List.Forall₂ (fun x y => sameBucket x y = true) a b := by
  induction a generalizing b with
  | nil =>
    cases b with
    | nil => simp
    | cons y ys => simp only [sameRankingN_nil_cons, Bool.false_eq_true, false_iff]; intro h; cases h
  | cons x xs ih =>
    cases b with
    | nil => simp only [sameRankingN_cons_nil, Bool.false_eq_true, false_iff]; intro h; cases h
    | cons y ys => simp [sameRankingN_cons_cons, ih]

theorem sameRankingN_refl (a : NRanking) : sameRankingN a a = true := by
  induction a with
  | nil => rfl
  | cons x xs ih => simp [sameRankingN_cons_cons, ih, sameBucket_refl]

theorem sameRankingN_comm (a b : NRanking) : sameRankingN a b = sameRankingN b a := by
  induction a generalizing b with
  | nil => cases b <;> rfl
  | cons x xs ih =>
    cases b with
    | nil => rfl
    | cons y ys => simp only [sameRankingN_cons_cons, ih ys, sameBucket_comm x y]

theorem sameRankingN_trans {a b c : NRanking} (h1 : sameRankingN a b = true) (h2 : sameRankingN b c = true) :
    sameRankingN a c = true := by
  rw [sameRankingN_iff] at *
  induction h1 generalizing c with
  | nil => exact h2
  | cons hxy _ ih =>
    cases h2 with
    | cons hyz h2 => exact .cons (sameBucket_trans hxy hyz) (ih h2)

theorem sameRankingN_congr_right {x q : NRanking} (h : sameRankingN x q = true) (r : NRanking) :
    sameRankingN r x = sameRankingN r q := by
  rw [Bool.eq_iff_iff]
  exact ⟨fun h1 => sameRankingN_trans h1 h,
    fun h1 => sameRankingN_trans h1 (by rw [sameRankingN_comm]; exact h)⟩

theorem sameRankingN_of_perm_members {r q : NRanking} (h : List.Forall₂ (fun x y => x.Perm y) r q) :
    sameRankingN r q = true := by
  induction h with
  | nil => rfl
  | cons hxy _ ih => simp [sameRankingN_cons_cons, ih, sameBucket_of_perm hxy]

theorem sameRankingN_map {α : Type} {f g : α → NBucket} {l : List α}
    (h : ∀ b ∈ l, sameBucket (f b) (g b) = true) : sameRankingN (l.map f) (l.map g) = true := by
  simp only [sameRankingN, List.length_map, beq_self_eq_true, Bool.true_and]
  rw [List.zip_map', List.all_map, List.all_eq_true]
  exact h

def cnt (r : NRanking) (l : List NRanking) : Nat := l.countP fun q => sameRankingN r q

theorem cnt_eq_filter (r : NRanking) (l : List NRanking) :
    cnt r l = (l.filter fun q => sameRankingN r q).length := List.countP_eq_length_filter

@[simp] theorem cnt_nil (r : NRanking) : cnt r [] = 0 := rfl
theorem cnt_cons (r x : NRanking) (l : List NRanking) :
    cnt r (x :: l) = cnt r l + if sameRankingN r x = true then 1 else 0 := by
  simp [cnt, List.countP_cons]

theorem cnt_cons_self_ne (x : NRanking) (l : List NRanking) : cnt x (x :: l) ≠ 0 := by
  rw [cnt_cons, if_pos (sameRankingN_refl x)]
  exact Nat.succ_ne_zero _

theorem cnt_perm {a b : List NRanking} (h : a.Perm b) (r : NRanking) : cnt r a = cnt r b := h.countP_eq _

theorem cnt_pos_iff (r : NRanking) (l : List NRanking) : 0 < cnt r l ↔ ∃ q ∈ l, sameRankingN r q = true := by
  simp [cnt, List.countP_pos_iff]

theorem cnt_forall₂ {a b : List NRanking} (h : List.Forall₂ (fun r q => sameRankingN r q = true) a b)
    (r : NRanking) : cnt r a = cnt r b := by
  induction h with
  | nil => rfl
  | cons hxy _ ih => rw [cnt_cons, cnt_cons, ih, sameRankingN_congr_right hxy]

theorem forall₂_length {α β : Type} {R : α → β → Prop} {a : List α} {b : List β} (h : List.Forall₂ R a b) :
    a.length = b.length := by
  induction h with
  | nil => rfl
  | cons _ _ ih => simp [ih]

theorem removeFirst_none {r : NRanking} {l : List NRanking} (h : removeFirst r l = none) : cnt r l = 0 := by
  fun_induction removeFirst r l with
  | case1 => rfl
  | case2 x xs hx => cases h
  | case3 x xs hx ih => rw [cnt_cons, ih (Option.map_eq_none_iff.1 h), if_neg hx]

theorem removeFirst_some {r : NRanking} {l l' : List NRanking} (h : removeFirst r l = some l') :
    ∃ q, sameRankingN r q = true ∧ (q :: l').Perm l := by
  fun_induction removeFirst r l generalizing l' with
  | case1 => cases h
  | case2 x xs hx => cases h; exact ⟨x, hx, .refl _⟩
  | case3 x xs hx ih =>
    obtain ⟨t, ht, rfl⟩ := Option.map_eq_some_iff.1 h
    obtain ⟨q, hq, hp⟩ := ih ht
    exact ⟨q, hq, (List.Perm.swap x q t).trans (hp.cons x)⟩

theorem multisetEq_matching {a b : List NRanking} (h : multisetEq a b = true) :
    ∃ b' : List NRanking, b'.Perm b ∧ List.Forall₂ (fun r q => sameRankingN r q = true) a b' := by
  fun_induction multisetEq a b with
  | case1 ys => exact ⟨[], List.isEmpty_iff.1 h ▸ .refl _, .nil⟩
  | case2 => cases h
  | case3 x xs ys ys' hrec ih =>
    obtain ⟨q, hq, hp⟩ := removeFirst_some hrec
    obtain ⟨c, hc, hf⟩ := ih h
    exact ⟨q :: c, (hc.cons q).trans hp, .cons hq hf⟩

theorem multisetEq_of_cnt {a b : List NRanking} (h : ∀ r, cnt r a = cnt r b) : multisetEq a b = true := by
  fun_induction multisetEq a b with
  | case1 ys =>
    cases ys with
    | nil => rfl
    | cons y ys => exact absurd (h y).symm (cnt_cons_self_ne y ys)
  | case2 x xs ys hrec => exact absurd ((h x).trans (removeFirst_none hrec)) (cnt_cons_self_ne x xs)
  | case3 x xs ys ys' hrec ih =>
    obtain ⟨q, hq, hp⟩ := removeFirst_some hrec
    refine ih fun r => ?_
    have := h r
    rw [← cnt_perm hp, cnt_cons, cnt_cons, sameRankingN_congr_right hq] at this
    exact Nat.add_right_cancel this

/-- A cycle: the run of `multisetEq` builds a matching, a matching preserves every count, and equal counts let every
    `removeFirst` of the run succeed. -/
theorem multisetEq_iff_cnt (a b : List NRanking) : multisetEq a b = true ↔ ∀ r, cnt r a = cnt r b :=
  ⟨fun h r => let ⟨_, hp, hf⟩ := multisetEq_matching h; (cnt_forall₂ hf r).trans (cnt_perm hp r), multisetEq_of_cnt⟩

end C17
end Corankco
