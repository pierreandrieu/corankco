import Corankco.Props.C08
/-
  C09 — BioConsert returns the best of its local optima, never worse than any departure ranking, with the
  true score.
-/
namespace Corankco
open Model Spec

/-- selection: the reported score is the minimum of the recorded scores, every returned ranking is the decoding of
    a final vector attaining it, and exactly one ranking is returned on request -/
theorem C09_selectBest (univ : List Elem) (amo : Bool) (res : List (List Nat × Int × Bool)) (hres : res ≠ []) :
    let out := selectBest univ amo res
    ∃ m, out.2 = some m ∧ (∀ r ∈ res, m ≤ r.2.1) ∧ out.1 ≠ [] ∧
      (∀ c ∈ out.1, ∃ r ∈ res, r.2.1 = m ∧ c = decodeVec univ r.1) ∧ (amo = true → out.1.length = 1) :=
  selectBest_spec univ amo res hres

/-- the row of a well-formed ranking is dense and has one entry per element -/
theorem C09_rowOf_dense (univ : List Elem) (_hu : univ.Nodup) (c : Ranking) (hw : wellFormedRanking univ c = true) :
    DenseN (rowOf univ c) ∧ (rowOf univ c).length = univ.length := by
  obtain ⟨w1, w2, w3, w4⟩ := wellFormed_iff.mp hw
  refine ⟨fun v hv b hb => ?_, List.length_map _⟩
  obtain ⟨u, hu, rfl⟩ := List.mem_map.mp hv
  have hb' : b < c.length := Int.ofNat_lt.mp (Int.lt_trans (Int.lt_toNat.mp hb) (bidIn_lt_length (w4 u hu)))
  obtain ⟨u', hu'⟩ := List.exists_mem_of_ne_nil _ (w1 c[b] (List.getElem_mem hb'))
  refine List.mem_map.mpr ⟨u', w3 u' (List.mem_flatten.mpr ⟨_, List.getElem_mem hb', hu'⟩), ?_⟩
  rw [bidIn_of_mem w2 hb' hu']
  rfl

/-- the all-tied departure row is dense -/
theorem C09_replicate_dense (n : Nat) : DenseN (List.replicate n 0) ∧ (List.replicate n 0).length = n :=
  ⟨denseN_replicate n, List.length_replicate⟩

/-- departure rows from starter consensuses: dense, of the right length -/
theorem C09_departuresStarters_dense (D : Dataset) (cons : List Ranking)
    (hc : ∀ c ∈ cons, wellFormedRanking (univOf D) c = true) :
    ∀ row ∈ departuresStarters D cons, DenseN row ∧ row.length = (univOf D).length := by
  intro row hrow
  obtain ⟨c, hcm, rfl⟩ := List.mem_map.mp hrow
  exact C09_rowOf_dense _ (nodup_univOf D) c (hc c hcm)

/-- default departure rows (input rankings, unified when the dataset is not complete, then the all-tied one):
    dense, of the right length, as soon as every input ranking has non-empty pairwise disjoint buckets -/
theorem C09_departuresDefault_dense (D : Dataset) (hD : ∀ r ∈ D, (∀ b ∈ r, b ≠ []) ∧ r.flatten.Nodup) :
    ∀ row ∈ departuresDefault D, DenseN row ∧ row.length = (univOf D).length := by
  intro row hrow
  rcases mem_departuresDefault.mp hrow with ⟨r, hr, rfl⟩ | rfl
  · obtain ⟨r0, hr0, rfl⟩ := List.mem_map.mp hr
    exact C09_rowOf_dense _ (nodup_univOf D) _ (wellFormed_unifyRanking hr0 (hD r0 hr0).1 (hD r0 hr0).2)
  · exact C09_replicate_dense _

/-- the score of a departure row read from the table is the Kemeny score of the ranking it encodes -/
theorem C09_score_rowOf (S : Scheme) (hS : S.Valid) (D : Dataset) (c : Ranking)
    (hw : wellFormedRanking (univOf D) c = true) :
    scoreVecN (costMatrix S (getPositions D)) (rowOf (univOf D) c) = Spec.kemeny S D c :=
  scoreVecN_rowOf S hS D c hw

/-- C04 for BioConsert: the reported score is the Kemeny score of every returned ranking -/
theorem C04_bioconsert (S : Scheme) (hS : S.Valid) (D : Dataset) (deps : List (List Nat)) (amo : Bool) (τ : Int)
    (hτ : 0 ≤ τ) (fuel : Nat) (hne : deps ≠ []) (hdeps : ∀ r ∈ deps, DenseN r ∧ r.length = (univOf D).length)
    (hflag : ∀ r ∈ (bioConsertRun S D deps amo τ fuel).2, r.2.2 = true) :
    ∃ m, (bioConsertRun S D deps amo τ fuel).1.2 = some m ∧
      (bioConsertRun S D deps amo τ fuel).1.1 ≠ [] ∧
      (amo = true → (bioConsertRun S D deps amo τ fuel).1.1.length = 1) ∧
      ∀ c ∈ (bioConsertRun S D deps amo τ fuel).1.1, Spec.kemeny S D c = m := by
  have hne' : (bioConsertRun S D deps amo τ fuel).2 ≠ [] := fun e => hne (List.map_eq_nil_iff.mp e)
  obtain ⟨m, h1, _, h3, _, h5⟩ := selectBest_spec (univOf D) amo _ hne'
  exact ⟨m, h1, h3, h5, fun c hc =>
    Option.some.inj ((BioSM.bioRun_out S hS D deps amo τ hτ fuel hdeps hflag c hc).2.2.symm.trans h1)⟩

/-- C09: the reported score is at most the score of every departure row -/
theorem C09_best (S : Scheme) (D : Dataset) (deps : List (List Nat)) (amo : Bool) (τ : Int)
    (hτ : 0 ≤ τ) (fuel : Nat) (hdeps : ∀ r ∈ deps, DenseN r ∧ r.length = (univOf D).length)
    (hflag : ∀ r ∈ (bioConsertRun S D deps amo τ fuel).2, r.2.2 = true)
    (m : Int) (hm : (bioConsertRun S D deps amo τ fuel).1.2 = some m) :
    ∀ dep ∈ deps, m ≤ scoreVecN (costMatrix S (getPositions D)) dep := by
  intro dep hdep
  obtain ⟨r, hr, hle⟩ := (BioSM.bioLoop_spec _ τ hτ fuel _ (mirror_costMatrix S D) deps hdeps hflag).2 dep hdep
  obtain ⟨m', h1, h2, _⟩ := selectBest_spec (univOf D) amo _ (List.ne_nil_of_mem hr)
  obtain rfl : m' = m := Option.some.inj (h1.symm.trans hm)
  exact Int.le_trans (h2 r hr) hle

/-- C09 as the decidable predicate of the specification: all returned rankings have the reported score, which is
    at most the Kemeny score of every starting ranking whose row is among the departure rows -/
theorem C09_holds (S : Scheme) (hS : S.Valid) (D : Dataset) (deps : List (List Nat)) (amo : Bool) (τ : Int)
    (hτ : 0 ≤ τ) (fuel : Nat) (hne : deps ≠ []) (hdeps : ∀ r ∈ deps, DenseN r ∧ r.length = (univOf D).length)
    (hflag : ∀ r ∈ (bioConsertRun S D deps amo τ fuel).2, r.2.2 = true)
    (starts : List Ranking)
    (hstarts : ∀ s ∈ starts, wellFormedRanking (univOf D) s = true ∧ rowOf (univOf D) s ∈ deps) :
    ∃ m, (bioConsertRun S D deps amo τ fuel).1.2 = some m ∧
      Spec.C09.holds S D (bioConsertRun S D deps amo τ fuel).1.1 m starts = true := by
  obtain ⟨m, h1, _, _, h4⟩ := C04_bioconsert S hS D deps amo τ hτ fuel hne hdeps hflag
  refine ⟨m, h1, ?_⟩
  simp only [Spec.C09.holds, Bool.and_eq_true, List.all_eq_true, beq_iff_eq, decide_eq_true_eq]
  refine ⟨h4, fun s hs => ?_⟩
  obtain ⟨w, hrow⟩ := hstarts s hs
  rw [← scoreVecN_rowOf S hS D s w]
  exact C09_best S D deps amo τ hτ fuel hdeps hflag m h1 _ hrow

/-- Non-vacuity of the dataset-level theorems: a 3-element dataset with a tie and an unranked element, a valid
    non-preset scheme, the default departure rows; every loop exits normally within 5 sweeps. -/
example :
    let S : Scheme := ⟨0, 2, 1, 1, 3, 1, 2, 2, 0, 3, 3, 1⟩
    let D : Dataset := [[[0, 1], [2]], [[2], [0]]]
    S.Valid ∧ (∀ r ∈ D, (∀ b ∈ r, b ≠ []) ∧ r.flatten.Nodup) ∧
    departuresDefault D = [[0, 0, 1], [1, 2, 0], [0, 0, 0]] ∧
    (∀ r ∈ (bioConsertRun S D (departuresDefault D) false 0 5).2, r.2.2 = true) ∧
    (bioConsertRun S D (departuresDefault D) false 0 5).1 = ([[[0], [1], [2]], [[2], [0], [1]]], some 7) ∧
    (departuresDefault D).map (scoreVecN (costMatrix S (getPositions D))) = [8, 7, 12] := by
  decide +kernel

end Corankco
