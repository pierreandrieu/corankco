import Corankco.Props.C08b
import Corankco.Props.C03
import Corankco.Props.C10
/-
  C09 / C08 / C03 / C04 for BioConsert started from the consensus rankings of other algorithms, with no hypothesis on
  the exit flags (`C09_starters_fuel`, the instance of `C08_unconditional_fuel` for `departuresStarters D starts`).
  Then two corollaries of C09: BioCo (BioConsert started from Borda's consensus) is never worse than Borda
  (`C09_bioco_le_borda`), and default BioConsert is never worse than PickAPerm (`C09_default_le_pickaperm`).
-/
namespace Corankco
open Model Spec

/-- every starter consensus is dominated by (indeed scores exactly as) its own departure row -/
theorem C09_starters_dominated (S : Scheme) (hS : S.Valid) (D : Dataset) (starts : List Ranking)
    (hw : ∀ c ∈ starts, wellFormedRanking (univOf D) c = true) :
    ∀ s ∈ starts, ∃ dep ∈ departuresStarters D starts,
      scoreVecN (costMatrix S (getPositions D)) dep ≤ Spec.kemeny S D s :=
  fun s hs => ⟨rowOf (univOf D) s, List.mem_map.mpr ⟨s, hs, rfl⟩,
    Int.le_of_eq (C09_score_rowOf S hS D s (hw s hs))⟩

/-- BioConsert started from the well-formed consensus rankings `starts ≠ []` of its starting algorithms, with the
    explicit fuel bound of `C08_unconditional_fuel`: the conclusions of that theorem, the run being never worse than any
    of the starting consensuses.  No hypothesis on the input rankings: only the starters' consensuses are read. -/
theorem C09_starters_fuel (S : Scheme) (hS : S.Valid) (D : Dataset) (starts : List Ranking) (hst : starts ≠ [])
    (hw : ∀ c ∈ starts, wellFormedRanking (univOf D) c = true) (amo : Bool) (τ : Int) (hτ : 0 ≤ τ) (fuel : Nat)
    (hf : ∀ r ∈ departuresStarters D starts, (scoreVecN (costMatrix S (getPositions D)) r -
        L4.lower (costMatrix S (getPositions D)) (univOf D).length).toNat + 1 ≤ fuel) :
    let out := (bioConsertRun S D (departuresStarters D starts) amo τ fuel).1
    C03.holds D amo out.1 = true ∧ C08.holds S D τ out.1 = true ∧
    (∃ m, out.2 = some m ∧ C04.holds S D out.1 (some m) = true ∧ C09.holds S D out.1 m starts = true) :=
  C08_unconditional_fuel S hS D (departuresStarters D starts) (departuresStarters_ne_nil hst)
    (C09_departuresStarters_dense D starts hw) amo τ hτ starts (C09_starters_dominated S hS D starts hw) fuel hf

/-- the same for every fuel large enough -/
theorem C09_starters (S : Scheme) (hS : S.Valid) (D : Dataset) (starts : List Ranking) (hst : starts ≠ [])
    (hw : ∀ c ∈ starts, wellFormedRanking (univOf D) c = true) (amo : Bool) (τ : Int) (hτ : 0 ≤ τ) :
    ∃ fuel0, ∀ fuel, fuel0 ≤ fuel →
      let out := (bioConsertRun S D (departuresStarters D starts) amo τ fuel).1
      C03.holds D amo out.1 = true ∧ C08.holds S D τ out.1 = true ∧
      (∃ m, out.2 = some m ∧ C04.holds S D out.1 (some m) = true ∧ C09.holds S D out.1 m starts = true) :=
  eventually_of_bound (C09_starters_fuel S hS D starts hst hw amo τ hτ)

/-- reading `C09.holds`: every returned ranking scores at most every start -/
theorem C09.holds_le {S : Scheme} {D : Dataset} {out : List Ranking} {m : Int} {starts : List Ranking}
    (h : C09.holds S D out m starts = true) :
    ∀ c ∈ out, ∀ s ∈ starts, Spec.kemeny S D c ≤ Spec.kemeny S D s := by
  simp only [C09.holds, Bool.and_eq_true, List.all_eq_true, beq_iff_eq, decide_eq_true_eq] at h
  intro c hc s hs
  rw [h.1 c hc]
  exact h.2 s hs

/-- every ranking PickAPerm scans (the input rankings of a complete dataset, the unified ones otherwise) is a default
    starting point of BioConsert: on a complete dataset unification changes nothing -/
theorem C09.inputs_sub_defaultStarts (D : Dataset) : ∀ p ∈ C10.inputs D, p ∈ defaultStarts D := by
  intro p hp
  rw [C10.inputs_eq] at hp
  exact List.mem_append_left _ hp

/-- every ranking PickAPerm returns is one of the rankings it scans -/
theorem C09.pickAPerm_sub_inputs (S : Scheme) (hS : S.Valid) (D : Dataset) (hne : D ≠ [])
    (hD : ∀ r ∈ D, r.flatten.Nodup) (amoP : Bool) (outP : List Ranking) (sc : Option Int)
    (hp : pickAPerm amoP S D = .ok (outP, sc)) : ∀ p ∈ outP, p ∈ C10.inputs D :=
  (C10.pickAPerm_ok hS hne hD hp).2.1

/-- BioCo (BioConsert started from Borda's consensus) is never worse than Borda: whenever Borda accepts the dataset,
    with enough fuel every ranking BioCo returns scores at most Borda's consensus -/
theorem C09_bioco_le_borda (S : Scheme) (hS : S.Valid) (D : Dataset) (hD : ∀ r ∈ D, r.flatten.Nodup)
    (useBid : Bool) (rb : Ranking) (hb : borda useBid S D = .ok rb) (amo : Bool) (τ : Int) (hτ : 0 ≤ τ) :
    ∃ fuel0, ∀ fuel, fuel0 ≤ fuel →
      ∀ c ∈ (bioConsertRun S D (departuresStarters D [rb]) amo τ fuel).1.1, kemeny S D c ≤ kemeny S D rb := by
  have hwf : ∀ c ∈ [rb], wellFormedRanking (univOf D) c = true := by
    have h3 := C03_borda useBid S D hD rb hb amo
    simp only [C03.holds, Bool.and_eq_true, List.all_eq_true] at h3
    exact h3.2
  obtain ⟨fuel0, hf⟩ := C09_starters S hS D [rb] (List.cons_ne_nil _ _) hwf amo τ hτ
  refine ⟨fuel0, fun fuel hle c hc => ?_⟩
  obtain ⟨_, _, m, _, _, h9⟩ := hf fuel hle
  exact C09.holds_le h9 c hc rb List.mem_cons_self

/-- default BioConsert is never worse than PickAPerm: whenever PickAPerm accepts the dataset, with enough fuel every
    ranking default BioConsert returns scores at most every ranking PickAPerm returns -/
theorem C09_default_le_pickaperm (S : Scheme) (hS : S.Valid) (D : Dataset) (hne : D ≠ [])
    (hD : ∀ r ∈ D, r.flatten.Nodup) (hDne : ∀ r ∈ D, ∀ b ∈ r, b ≠ []) (amoP : Bool) (outP : List Ranking)
    (sc : Option Int) (hp : pickAPerm amoP S D = .ok (outP, sc)) (amo : Bool) (τ : Int) (hτ : 0 ≤ τ) :
    ∃ fuel0, ∀ fuel, fuel0 ≤ fuel →
      ∀ c ∈ (bioConsertRun S D (departuresDefault D) amo τ fuel).1.1, ∀ p ∈ outP,
        kemeny S D c ≤ kemeny S D p := by
  obtain ⟨fuel0, hf⟩ := C08_default S hS D hne hD hDne amo τ hτ
  refine ⟨fuel0, fun fuel hle c hc p hpo => ?_⟩
  obtain ⟨_, _, m, _, _, h9⟩ := hf fuel hle
  exact C09.holds_le h9 c hc p
    (C09.inputs_sub_defaultStarts D p (C09.pickAPerm_sub_inputs S hS D hne hD amoP outP sc hp p hpo))

/-- the hypotheses of both corollaries are satisfiable together (the incomplete 3-element dataset of C03 with a tie,
    unifying scheme), and the conclusions are not vacuous: BioCo improves strictly on Borda's consensus (score 4 to 3);
    PickAPerm and default BioConsert both return two rankings of score 3 -/
example :
    let S : Scheme := unifying
    let D : Dataset := [[[0, 1], [2]], [[2], [0]]]
    S.Valid ∧ D ≠ [] ∧ (∀ r ∈ D, r.flatten.Nodup) ∧ (∀ r ∈ D, ∀ b ∈ r, b ≠ []) ∧
    borda false S D = .ok [[0], [1, 2]] ∧ kemeny S D [[0], [1, 2]] = 4 ∧
    (bioConsertRun S D (departuresStarters D [[[0], [1, 2]]]) false 0 6).1 = ([[[0, 1], [2]]], some 3) ∧
    pickAPerm false S D = .ok ([[[0, 1], [2]], [[2], [0], [1]]], some 3) ∧
    (bioConsertRun S D (departuresDefault D) false 0 6).1 = ([[[0, 1], [2]], [[2], [0], [1]]], some 3) ∧
    [[[0, 1], [2]], [[2], [0], [1]]].map (kemeny S D) = [3, 3] := by
  dsimp only
  rw [C10.pickAPerm_eq unifying_valid (by decide +kernel)]
  decide +kernel

end Corankco

#print axioms Corankco.C09_bioco_le_borda
#print axioms Corankco.C09_default_le_pickaperm
