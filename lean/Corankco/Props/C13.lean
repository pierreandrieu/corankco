import Corankco.Lemmas.C13
import Corankco.Lemmas.C12
import Corankco.Lemmas.Invariance
import Corankco.Model.Scheme
/-
  C13 — Copeland: counts, doubled scores and the consensus by decreasing score (`C13_holds`); the counts and the
  placement of every pair under a permutation of the input rankings (`C13_perm`) and under an injective renaming of
  the elements (`C13_rename`, `C13_features_rename`).
-/
namespace Corankco
open Model

/-- Copeland: victory / equality / defeat counts are the three pair classes of the definition (sum n-1), doubled
    scores are 2·victories + equalities (total n(n-1)), the consensus is well-formed and lists the elements by
    decreasing score, tied exactly on equal scores. -/
theorem C13_holds (S : Scheme) (hS : S.Valid) (D : Dataset) :
    Spec.C13.holds S D (copeland S D).1 (copeland S D).2.1 (copeland S D).2.2 = true := by
  have ho := C13.copeland_ordersBy S hS D _ (C13.sc_lookup S D)
  rw [C13.copeland_eq S hS D] at ho ⊢
  unfold Spec.C13.holds
  simp only [Bool.and_eq_true, beq_iff_eq]
  refine ⟨⟨⟨⟨trivial, ?_⟩, ?_⟩, C13.score2_sum S D⟩, ho⟩
  · apply List.map_congr_left
    intro x hx
    exact (C13.sc_lookup S D x hx).symm
  · rw [List.all_eq_true]
    intro r hr
    obtain ⟨x, hx, rfl⟩ := List.mem_map.mp hr
    rw [beq_iff_eq]
    exact C13.copVictories_total S D x hx

/-- Non-vacuity: a valid scheme, an incomplete dataset with ties; elements `0` and `1` form an equal-cost pair
    (one equality each), both beat `2`, and the consensus ties them on equal doubled scores 3. -/
example :
    let S : Scheme := unifying
    let D : Dataset := [[[0, 1], [2]], [[2], [0]], [[1], [0]]]
    S.Valid ∧ univOf D = [0, 1, 2] ∧ Spec.before S D 0 1 = Spec.after S D 0 1 ∧
      (copeland S D).2.2 = [(1, 1, 0), (1, 1, 0), (0, 0, 2)] ∧ (copeland S D).2.1 = [3, 3, 0] ∧
      (copeland S D).1 = [[0, 1], [2]] := by
  decide +kernel

open Spec

theorem C13_before_perm (S : Scheme) (D D' : Dataset) (hp : D.Perm D') (x y : Elem) :
    Spec.before S D x y = Spec.before S D' x y :=
  isum_map_perm _ hp

theorem C13_after_perm (S : Scheme) (D D' : Dataset) (hp : D.Perm D') (x y : Elem) :
    Spec.after S D x y = Spec.after S D' x y :=
  C13_before_perm S D D' hp y x  -- `after S D x y` is `before S D y x`

/-- The three counts of an element do not depend on the order of the input rankings. -/
theorem C13_counts_perm (S : Scheme) (D D' : Dataset) (hp : D.Perm D') (x : Elem) :
    Spec.copVictories S D x = Spec.copVictories S D' x := by
  -- each count is a `countP` over the other elements, which are listed in a permuted order
  have hu := (C12.univOf_perm D D' hp).filter (· ≠ x)
  simp only [Spec.copVictories, ← C13_before_perm S D D' hp, ← C13_after_perm S D D' hp,
    ← List.countP_eq_length_filter, hu.countP_eq]

/-- Copeland's consensus places every pair of elements alike whatever the order of the input rankings. -/
theorem C13_perm (S : Scheme) (hS : S.Valid) (D D' : Dataset) (hp : D.Perm D') :
    ∀ x ∈ univOf D, ∀ y ∈ univOf D, cmpIn (copeland S D).1 x y = cmpIn (copeland S D').1 x y :=
  SortGroup.cmpIn_congr (C13.copeland_ordersBy S hS D _ fun _ _ => rfl) (C13.copeland_ordersBy S hS D' _ fun _ _ => rfl)
    (fun x => x) (fun _ => (C12.univOf_perm D D' hp).mem_iff.mp) fun x y => by
      unfold C13.score2
      simp only [C13_counts_perm S D D' hp]

/-- Non-vacuity: two orders of the same three rankings, same counts and same consensus. -/
example :
    let S : Scheme := unifying
    let D : Dataset := [[[0, 1], [2]], [[2], [0]], [[1], [0]]]
    let D' : Dataset := [[[1], [0]], [[0, 1], [2]], [[2], [0]]]
    S.Valid ∧ univOf D' = [1, 0, 2] ∧ (copeland S D').1 = [[1, 0], [2]] ∧ (copeland S D).1 = [[0, 1], [2]] ∧
      cmpIn (copeland S D).1 0 2 = cmpIn (copeland S D').1 0 2 := by
  decide +kernel

theorem C13_before_rename {f : Elem → Elem} (hf : Function.Injective f) (S : Scheme) (D : Dataset) (x y : Elem) :
    Spec.before S (D.map fun r => r.map fun b => b.map f) (f x) (f y) = Spec.before S D x y :=
  isum_map_map (fun r => by rw [Invariance.status_rename hf]) D

theorem C13_after_rename {f : Elem → Elem} (hf : Function.Injective f) (S : Scheme) (D : Dataset) (x y : Elem) :
    Spec.after S (D.map fun r => r.map fun b => b.map f) (f x) (f y) = Spec.after S D x y :=
  C13_before_rename hf S D y x

theorem C13_filter_rename {f : Elem → Elem} (l : List Elem) (p : Elem → Bool) (q : Elem → Bool)
    (h : ∀ y, q (f y) = p y) : ((l.map f).filter q).length = (l.filter p).length := by
  rw [List.filter_map, List.length_map]
  congr 1
  apply List.filter_congr
  intro y _
  exact h y

/-- The three counts of the renamed element in the renamed dataset are those of the element in the dataset. -/
theorem C13_counts_rename {f : Elem → Elem} (hf : Function.Injective f) (S : Scheme) (D : Dataset) (x : Elem) :
    Spec.copVictories S (D.map fun r => r.map fun b => b.map f) (f x) = Spec.copVictories S D x := by
  unfold Spec.copVictories
  simp only [Invariance.univOf_rename hf, List.filter_map, List.length_map, Function.comp_def, ne_eq, hf.eq_iff,
    C13_before_rename hf, C13_after_rename hf]

/-- The consensus of the renamed dataset places the renamed elements as the consensus of the original places the
    originals. -/
theorem C13_rename (S : Scheme) (hS : S.Valid) (D : Dataset) (f : Elem → Elem) (hf : Function.Injective f) :
    ∀ x ∈ univOf D, ∀ y ∈ univOf D,
      cmpIn (copeland S D).1 x y = cmpIn (copeland S (D.map fun r => r.map fun b => b.map f)).1 (f x) (f y) :=
  SortGroup.cmpIn_congr (C13.copeland_ordersBy S hS D _ fun _ _ => rfl) (C13.copeland_ordersBy S hS _ _ fun _ _ => rfl)
    f (fun x => (Invariance.mem_univOf_rename hf D x).mpr) fun x y => by
      unfold C13.score2
      simp only [C13_counts_rename hf]

/-- Non-vacuity: renaming by `x ↦ x + 10` carries counts and consensus over. -/
example :
    (copeland Model.unifying [[[0, 1], [2]], [[2], [0]], [[1], [0]]]).1 = [[0, 1], [2]] ∧
      (copeland Model.unifying [[[10, 11], [12]], [[12], [10]], [[11], [10]]]).1 = [[10, 11], [12]] ∧
      Spec.copVictories Model.unifying [[[10, 11], [12]], [[12], [10]], [[11], [10]]] 10 = (1, 1, 0) := by
  decide +kernel

/-- The reported features (doubled scores, victory / equality / defeat counts, in id order) of the renamed dataset are
    the same lists. -/
theorem C13_features_rename (S : Scheme) (hS : S.Valid) (D : Dataset) (f : Elem → Elem) (hf : Function.Injective f) :
    (copeland S (D.map fun r => r.map fun b => b.map f)).2 = (copeland S D).2 := by
  unfold copeland
  simp only [Invariance.getPositions_rename hf]

end Corankco
