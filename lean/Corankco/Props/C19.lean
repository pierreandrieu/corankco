import Corankco.Lemmas.C19
/-
  C19 — `ScoringScheme`: the constructor accepts exactly the documented inputs and raises the documented exception
  class otherwise (`C19_accept_iff`); multiplication by a positive number scales every penalty and every Kemeny score;
  `is_equivalent_to` decides proportionality of both penalty vectors by one positive rational factor
  (`C19_equiv_iff`), so nicknames do not see a positive factor.
-/
namespace Corankco
open Model

set_option linter.unusedVariables false in
/-- The constructor accepts exactly the documented inputs and rejects with the documented exception, for every
    Python value and every positive scale. -/
theorem C19_accept_iff (scale : Int) (hs : 0 < scale) (v : PyVal) :
    newScheme scale v = Spec.newSpec scale v := by
  cases v with
  | list xs =>
    match xs with
    | [] => rfl
    | [p0] => cases p0 <;> rfl
    | p0 :: p1 :: _ :: _ =>
      cases p0 with
      | list _ => cases p1 <;> rfl
      | _ => rfl
    | [p0, p1] =>
      cases p0 with
      | list l0 =>
        cases p1 with
        | list l1 => exact C19.newScheme_two_lists scale l0 l1
        | _ => rfl
      | _ => rfl
  | _ => rfl

/-- Every accepted scheme satisfies the validity constraints. -/
theorem C19_accepted_valid (scale : Int) (hs : 0 < scale) (v : PyVal) (S : Scheme)
    (h : newScheme scale v = .ok S) : S.Valid := by
  rw [C19_accept_iff scale hs v] at h
  unfold Spec.newSpec at h
  split at h
  · cases h
  split at h
  · cases h
  rename_i hn
  simp only at h
  split at h
  · rename_i hc
    cases h
    have nn : ∀ x ∈ Spec.values scale v, 0 ≤ x :=
      C19.map_penVal_nonneg scale _ (eq_true_of_ne_false fun hf => hn (congrArg not hf))
    exact C19.constraintsOK_valid (fun x hx => nn x (List.mem_of_mem_take hx))
      (fun x hx => nn x (List.mem_of_mem_drop hx)) hc
  · cases h

/-- Multiplying a valid scheme by a positive number yields the scheme with every penalty scaled, and it is valid. -/
theorem C19_mul (S : Scheme) (hS : S.Valid) (k : Int) (hk : 0 < k) :
    mulScheme S (some k) = .ok (Scheme.scale k S) ∧ (Scheme.scale k S).Valid := by
  have hv := C19.scale_valid S hS k hk
  exact ⟨C19.ofNums_valid hv, hv⟩

/-- Homogeneity: every Kemeny score is scaled by the same factor. -/
theorem C19_homogeneous (S : Scheme) (k : Int) (D : Dataset) (c : Ranking) :
    Spec.kemeny (Scheme.scale k S) D c = k * Spec.kemeny S D c :=
  (isum_map_congr fun r _ => C19.kemenyOne_scale k S c r).trans (isum_map_mul ..)

set_option linter.unusedVariables false in
/-- The scan decides proportionality (cross-multiplied form) on both vectors, full and complete-rankings variant. -/
theorem C19_equiv_spec (stop : Nat) (S1 S2 : Scheme) (h1 : S1.Valid) (h2 : S2.Valid) :
    equivGen stop S1 S2 = Spec.equivSpec stop S1 S2 :=
  C19.equivGen_eq_spec stop S1 S2

/-- Cross-multiplied proportionality of non-negative vectors with a non-zero entry is proportionality by a
    positive rational factor k1/k2. -/
theorem C19_proportional_iff (l1 l2 : List Int) (hlen : l1.length = l2.length)
    (hnz : ∃ x ∈ l1, x ≠ 0) (hnn1 : ∀ x ∈ l1, 0 ≤ x) (hnn2 : ∀ x ∈ l2, 0 ≤ x) :
    Spec.proportional l1 l2 = true ↔
      ∃ k1 k2 : Int, 0 < k1 ∧ 0 < k2 ∧ ∀ p ∈ l1.zip l2, k2 * p.1 = k1 * p.2 := by
  rw [C19.proportional_iff]
  constructor
  · intro h
    obtain ⟨x, hx, hx0⟩ := hnz
    rw [← List.map_fst_zip (Nat.le_of_eq hlen)] at hx
    obtain ⟨c, hc, rfl⟩ := List.mem_map.1 hx
    have hm := List.of_mem_zip hc
    exact ⟨c.1, c.2, Int.lt_iff_le_and_ne.mpr ⟨hnn1 _ hm.1, Ne.symm hx0⟩,
      Int.lt_iff_le_and_ne.mpr ⟨hnn2 _ hm.2, Ne.symm (mt (h c hc).1.mpr hx0)⟩,
      fun p hp => (Int.mul_comm ..).trans ((h p hp).2 c hc)⟩
  · rintro ⟨k1, k2, h1, h2, h⟩
    exact C19.cross_of_ratio (c := (k1, k2)) (Int.ne_of_gt h1) (Int.ne_of_gt h2)
      fun p hp => (Int.mul_comm ..).trans (h p hp)

theorem forall_lt_six (P : Nat → Prop) :
    (∀ i, i < 6 → P i) ↔ P 0 ∧ P 1 ∧ P 2 ∧ P 3 ∧ P 4 ∧ P 5 := by
  simp only [Nat.forall_lt_succ_right, Nat.not_lt_zero, false_imp_iff, implies_true, true_and, and_assoc]

/-- the scan on the first `stop` entries of both vectors succeeds iff one scheme is a positive rational multiple of
    the other there (`stop = 6`: `is_equivalent_to`, `stop = 3`: `is_equivalent_to_on_complete_rankings_only`) -/
theorem equivGen_iff (stop : Nat) (hstop : 2 ≤ stop) (S1 S2 : Scheme) (h1 : S1.Valid) (h2 : S2.Valid) :
    equivGen stop S1 S2 = true ↔
      ∃ k1 k2 : Int, 0 < k1 ∧ 0 < k2 ∧
        (∀ p ∈ (S1.bList.take stop).zip (S2.bList.take stop), k2 * p.1 = k1 * p.2) ∧
        (∀ p ∈ (S1.tList.take stop).zip (S2.tList.take stop), k2 * p.1 = k1 * p.2) := by
  have hb1 : S1.b1 ∈ S1.bList.take stop :=
    (List.take_sublist_take_left hstop).subset (List.mem_cons_of_mem _ List.mem_cons_self)
  have nn : ∀ {S : Scheme}, S.Valid → ∀ x ∈ S.bList.take stop ++ S.tList.take stop, 0 ≤ x := fun h x hx =>
    ((C19.valid_iff _).1 h).1 x (((List.take_sublist ..).append (List.take_sublist ..)).subset hx)
  rw [C19_equiv_spec stop S1 S2 h1 h2, Spec.equivSpec,
    C19_proportional_iff _ _ (by simp only [List.length_append, List.length_take]; rfl)
      ⟨S1.b1, List.mem_append_left _ hb1, Int.ne_of_gt h1.b1_pos⟩ (nn h1) (nn h2)]
  simp only [List.zip_append (show (S1.bList.take stop).length = (S2.bList.take stop).length by
    rw [List.length_take, List.length_take]; rfl), List.forall_mem_append]

/-- Equivalent iff one scheme is a positive rational multiple of the other on both penalty vectors. -/
theorem C19_equiv_iff (S1 S2 : Scheme) (h1 : S1.Valid) (h2 : S2.Valid) :
    isEquivalentTo S1 S2 = true ↔
      ∃ k1 k2 : Int, 0 < k1 ∧ 0 < k2 ∧
        (∀ i, i < 6 → k2 * S1.B i = k1 * S2.B i) ∧ (∀ i, i < 6 → k2 * S1.T i = k1 * S2.T i) := by
  rw [isEquivalentTo, equivGen_iff 6 (by omega) S1 S2 h1 h2]
  simp only [forall_lt_six, Scheme.bList, Scheme.tList, List.take, List.zip_cons_cons, List.zip_nil_right,
    List.forall_mem_cons, List.not_mem_nil, false_imp_iff, implies_true, and_true]
  -- `S.B i`, `S.T i` are the entries by computation
  exact Iff.rfl

/-- Equivalence is reflexive on valid schemes. -/
theorem C19_equiv_refl (S : Scheme) (h : S.Valid) : isEquivalentTo S S = true := by
  rw [C19_equiv_iff S S h h]
  exact ⟨1, 1, by omega, by omega, fun _ _ => rfl, fun _ _ => rfl⟩

/-- Equivalence is symmetric on valid schemes. -/
theorem C19_equiv_symm (S1 S2 : Scheme) (h1 : S1.Valid) (h2 : S2.Valid) :
    isEquivalentTo S1 S2 = isEquivalentTo S2 S1 := by
  rw [Bool.eq_iff_iff, C19_equiv_iff S1 S2 h1 h2, C19_equiv_iff S2 S1 h2 h1]
  constructor <;>
  · rintro ⟨k1, k2, p1, p2, hb, ht⟩
    exact ⟨k2, k1, p2, p1, fun i hi => (hb i hi).symm, fun i hi => (ht i hi).symm⟩

theorem unifying_valid : unifying.Valid := by decide
theorem pseudo_valid : pseudo.Valid := by decide
theorem induced_valid : induced.Valid := by decide
theorem extended_valid : extended.Valid := by decide

theorem equiv_scale (S : Scheme) (hS : S.Valid) (k : Int) (hk : 0 < k) :
    isEquivalentTo (Scheme.scale k S) S = true := by
  rw [C19.isEquivalentTo_scale S S (Int.ne_of_gt hk), C19_equiv_refl S hS]

theorem not_equiv_of_B (S S' : Scheme) (hS : S.Valid) (hS' : S'.Valid) (k : Int) (hk : 0 < k) (i : Nat)
    (hi : i < 6) (h0 : S.B i = 0) (h1 : S'.B i ≠ 0) : isEquivalentTo (Scheme.scale k S) S' = false := by
  rw [C19.isEquivalentTo_scale S S' (Int.ne_of_gt hk), Bool.eq_false_iff]
  intro h
  obtain ⟨k1, k2, p1, _, hb, _⟩ := (C19_equiv_iff S S' hS hS').1 h
  have e := hb i hi
  rw [h0, Int.mul_zero] at e
  exact (Int.mul_eq_zero.1 e.symm).elim (Int.ne_of_gt p1) h1

/-- Nicknames: positive multiples of the four presets get their nickname. -/
theorem C19_nickname (k : Int) (hk : 0 < k) :
    nickname (Scheme.scale k unifying) = 0 ∧ nickname (Scheme.scale k pseudo) = 1 ∧
    nickname (Scheme.scale k induced) = 2 ∧ nickname (Scheme.scale k extended) = 3 := by
  simp only [C19.nickname_scale (Int.ne_of_gt hk)]
  decide +kernel

/-! ### Non-vacuity -/

/-- not a pair of lists: `InvalidScoringScheme`. -/
example : newScheme 1 (.list [.list [.int 0, .int 1], .pynone]) = .error .invalid := by decide +kernel
/-- NaN, infinities: "non real", also where a comparison with NaN would let them through (`B[0] > 0`, `B[1] == 0`) -/
example : newScheme 1 (.list [.list [.nan, .int 1, .int 1, .int 0, .int 1, .int 1],
    .list [.int 1, .int 1, .int 0, .int 1, .int 1, .int 0]]) = .error .nonReal := by decide +kernel
example : newScheme 1 (.list [.list [.int 0, .inf, .int 1, .int 0, .int 1, .int 1],
    .list [.int 1, .int 1, .int 0, .int 1, .int 1, .int 0]]) = .error .nonReal := by decide +kernel
/-- wrong length: `InvalidScoringScheme`. -/
example : newScheme 1 (.list [.list [.int 0, .int 1, .int 1, .int 0, .int 1],
    .list [.int 1, .int 1, .int 0, .int 1, .int 1, .int 0]]) = .error .invalid := by decide +kernel
/-- a string penalty: `NonRealPositiveValuesScoringScheme`. -/
example : newScheme 1 (.list [.list [.int 0, .int 1, .str, .int 0, .int 1, .int 1],
    .list [.int 1, .int 1, .int 0, .int 1, .int 1, .int 0]]) = .error .nonReal := by decide +kernel
/-- a negative penalty: `NonRealPositiveValuesScoringScheme`. -/
example : newScheme 2 (.list [.list [.int 0, .int 1, .float (-1), .int 0, .int 1, .int 1],
    .list [.int 1, .int 1, .int 0, .int 1, .int 1, .int 0]]) = .error .nonReal := by decide +kernel
/-- `B[1] = 0`: `ForbiddenAssociationPenaltiesScoringScheme`. -/
example : newScheme 1 (.list [.list [.int 0, .int 0, .int 1, .int 0, .int 1, .int 1],
    .list [.int 1, .int 1, .int 0, .int 1, .int 1, .int 0]]) = .error .forbidden := by decide +kernel
/-- `T[0] ≠ T[1]`: `ForbiddenAssociationPenaltiesScoringScheme`. -/
example : newScheme 1 (.list [.list [.int 0, .int 1, .int 1, .int 0, .int 1, .int 1],
    .list [.int 1, .int 2, .int 0, .int 1, .int 1, .int 0]]) = .error .forbidden := by decide +kernel
/-- a valid input (ints, a float 0.5 at scale 2, a bool) is accepted, with the expected penalties. -/
example : newScheme 2 (.list [.list [.int 0, .int 1, .float 1, .int 0, .bool true, .float 1],
    .list [.int 1, .int 1, .bool false, .int 1, .int 1, .int 0]]) =
    .ok (Scheme.ofLists [0, 2, 1, 0, 2, 1] [2, 2, 0, 2, 2, 0]) := by decide +kernel

def exA : Scheme := Scheme.ofLists [0, 2, 3, 1, 4, 5] [6, 6, 0, 7, 7, 1]
def exA3 : Scheme := Scheme.ofLists [0, 6, 9, 3, 12, 15] [18, 18, 0, 21, 21, 3]
/-- proportional to `exA` on `B` (factor 3) but not on `T` (factor 1). -/
def exNear : Scheme := Scheme.ofLists [0, 6, 9, 3, 12, 15] [6, 6, 0, 7, 7, 1]

example : exA.Valid ∧ exA3.Valid ∧ exNear.Valid := by decide +kernel
/-- non-preset schemes -/
example : nickname exA = 4 ∧ nickname exA3 = 4 ∧ nickname exNear = 4 := by decide +kernel
example : isEquivalentTo exA exA3 = true := by decide +kernel
example : Spec.proportional exA.bList exNear.bList = true := by decide +kernel
/-- yet the pair is not equivalent -/
example : isEquivalentTo exA exNear = false := by decide +kernel
/-- on complete rankings as well -/
example : isEquivalentToOnComplete exA exA3 = true ∧ isEquivalentToOnComplete exA exNear = false := by decide +kernel

end Corankco
