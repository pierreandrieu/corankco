import Corankco.Lemmas.Dense
import Corankco.Lemmas.L4
import Corankco.Model.Partition
import Corankco.Model.Exact
import Corankco.Spec.Partition
/-
  The exhaustive oracle (L3).  `allWeakOrders n` lists every dense vector of length `n` exactly once: `extendWeak` is
  characterised through its inverse `shrink` (`extendWeak_sound`, `extendWeak_complete`).  Every key vector has the
  comparisons of a dense one, its ranks among the distinct values (`exists_dense_same_cmp`), so `optScore` is the
  minimum over all key vectors and `optima` lists the dense minimisers.  `prune_noties` is the tie-breaking argument
  behind the no-tie rows of the CPLEX models.
-/
namespace Corankco
open Model Spec
namespace WO

theorem extendWeak_eq (v : List Nat) : extendWeak v =
    ((List.range (nbOf v)).map fun j => v ++ [j]) ++
    ((List.range (nbOf v + 1)).map fun p => v.map (up p) ++ [p]) := rfl

theorem mem_extendWeak (v w : List Nat) : w ∈ extendWeak v ↔
    (∃ j, j < nbOf v ∧ w = v ++ [j]) ∨ (∃ p, p ≤ nbOf v ∧ w = v.map (up p) ++ [p]) := by
  rw [extendWeak_eq]
  simp only [List.mem_append, List.mem_map, List.mem_range, Nat.lt_succ_iff, eq_comm]

/-- the inverse of `extendWeak`: the last entry goes, and its id is closed if no other entry had it -/
def shrink (w : List Nat) : List Nat :=
  match w.getLast? with
  | none => []
  | some x => if x ∈ w.dropLast then w.dropLast else w.dropLast.map (down x)

theorem shrink_concat (u : List Nat) (x : Nat) :
    shrink (u ++ [x]) = if x ∈ u then u else u.map (down x) := by
  simp [shrink]

theorem mem_map_up (v : List Nat) (p c : Nat) : c ∈ v.map (up p) ↔ c ≠ p ∧ down p c ∈ v := by
  rw [List.mem_map]
  constructor
  · rintro ⟨b, hb, rfl⟩
    exact ⟨up_ne p b, by rwa [down_up]⟩
  · rintro ⟨h1, h2⟩
    exact ⟨_, h2, up_down h1⟩

theorem mem_map_down {u : List Nat} {x : Nat} (hx : x ∉ u) (c : Nat) : c ∈ u.map (down x) ↔ up x c ∈ u := by
  rw [List.mem_map]
  constructor
  · rintro ⟨b, hb, rfl⟩
    have hbx : b ≠ x := fun e => hx (e ▸ hb)
    rwa [up_down hbx]
  · intro h
    exact ⟨_, h, down_up x c⟩

theorem extendWeak_sound (v : List Nat) (hd : DenseN v) (w : List Nat) (hw : w ∈ extendWeak v) :
    DenseN w ∧ w.length = v.length + 1 ∧ shrink w = v := by
  have hm := DenseN.mem_iff_lt hd
  rcases (mem_extendWeak v w).mp hw with ⟨j, hj, rfl⟩ | ⟨p, hp, rfl⟩
  · refine ⟨(denseN_of_mem_iff_lt _ (nbOf v) fun c => ?_).1, List.length_append, by simp [shrink_concat, (hm j).mpr hj]⟩
    rw [List.mem_append, List.mem_singleton, hm]
    exact or_iff_left_of_imp fun e => e ▸ hj
  · refine ⟨(denseN_of_mem_iff_lt _ (nbOf v + 1) fun c => ?_).1, by simp, ?_⟩
    · rw [List.mem_append, List.mem_singleton, mem_map_up, hm]
      unfold down; split <;> omega
    · rw [shrink_concat, if_neg fun h => ((mem_map_up v p p).mp h).1 rfl, List.map_map]
      exact map_eq_self fun b _ => down_up p b

theorem extendWeak_complete (w : List Nat) (hd : DenseN w) (hne : w ≠ []) :
    DenseN (shrink w) ∧ (shrink w).length + 1 = w.length ∧ w ∈ extendWeak (shrink w) := by
  have hm := DenseN.mem_iff_lt hd
  obtain ⟨u, x, rfl⟩ : ∃ u x, w = u ++ [x] := ⟨w.dropLast, w.getLast hne, (List.dropLast_concat_getLast hne).symm⟩
  rw [shrink_concat]
  generalize hM : nbOf (u ++ [x]) = m at hm
  have hx : x < m := (hm x).mp (by simp)
  simp only [List.mem_append, List.mem_singleton] at hm
  by_cases hxu : x ∈ u
  · rw [if_pos hxu]
    obtain ⟨h1, h2⟩ := denseN_of_mem_iff_lt u m fun c => by
      rw [← hm c]
      exact ⟨Or.inl, fun h => h.elim id fun e => e ▸ hxu⟩
    exact ⟨h1, by simp, (mem_extendWeak _ _).mpr (Or.inl ⟨x, h2 ▸ hx, rfl⟩)⟩
  · rw [if_neg hxu]
    have hu : ∀ c, c ∈ u ↔ (c < m ∧ c ≠ x) := fun c => by
      rw [← hm c]
      exact ⟨fun h => ⟨Or.inl h, fun e => hxu (e ▸ h)⟩, fun h => h.1.resolve_right h.2⟩
    obtain ⟨h1, h2⟩ := denseN_of_mem_iff_lt (u.map (down x)) (m - 1) fun c => by
      rw [mem_map_down hxu, hu]
      unfold up; split <;> omega
    refine ⟨h1, by simp, (mem_extendWeak _ _).mpr (Or.inr ⟨x, h2 ▸ Nat.le_sub_one_of_lt hx, ?_⟩)⟩
    rw [List.map_map]
    congr 1
    exact (map_eq_self fun b hb => up_down ((hu b).mp hb).2).symm

theorem allWeakOrders_spec (n : Nat) (d : List Nat) :
    d ∈ allWeakOrders n ↔ (d.length = n ∧ DenseN d) := by
  induction n generalizing d with
  | zero =>
    simp only [allWeakOrders, List.mem_singleton]
    constructor
    · rintro rfl; exact ⟨rfl, by intro a ha; simp at ha⟩
    · rintro ⟨h, _⟩; exact List.eq_nil_of_length_eq_zero h
  | succ n ih =>
    simp only [allWeakOrders, List.mem_flatMap]
    constructor
    · rintro ⟨v, hv, hd⟩
      obtain ⟨hl, hdv⟩ := (ih v).mp hv
      obtain ⟨h1, h2, _⟩ := extendWeak_sound v hdv d hd
      exact ⟨hl ▸ h2, h1⟩
    · rintro ⟨hl, hd⟩
      have hne : d ≠ [] := by intro e; subst e; simp at hl
      obtain ⟨h1, h2, h3⟩ := extendWeak_complete d hd hne
      exact ⟨shrink d, (ih _).mpr ⟨Nat.succ.inj (h2.trans hl), h1⟩, h3⟩

theorem extendWeak_nodup (v : List Nat) (hd : DenseN v) : (extendWeak v).Nodup := by
  have hm := DenseN.mem_iff_lt hd
  rw [extendWeak_eq, List.nodup_append]
  refine ⟨nodup_map_range_concat _ _, nodup_map_range_concat _ _, ?_⟩
  · intro a ha b hb e
    simp only [List.mem_map, List.mem_range] at ha hb
    obtain ⟨j, hj, rfl⟩ := ha
    obtain ⟨p, hp, rfl⟩ := hb
    obtain rfl : j = p := by simpa using List.append_inj_right' e rfl
    exact ((mem_map_up v j j).mp (List.append_inj_left' e rfl ▸ (hm j).mpr hj)).1 rfl

theorem allWeakOrders_nodup (n : Nat) : (allWeakOrders n).Nodup := by
  induction n with
  | zero => simp [allWeakOrders]
  | succ n ih =>
    simp only [allWeakOrders]
    unfold List.Nodup
    rw [List.pairwise_flatMap]
    constructor
    · intro v hv
      exact extendWeak_nodup v ((allWeakOrders_spec n v).mp hv).2
    · refine List.Pairwise.imp_of_mem ?_ ih
      intro a b ha hb hab
      intro x h1 y h2 e
      subst e
      have ea := (extendWeak_sound a ((allWeakOrders_spec n a).mp ha).2 x h1).2.2
      have eb := (extendWeak_sound b ((allWeakOrders_spec n b).mp hb).2 x h2).2.2
      exact hab (ea.symm.trans eb)

/-! ### densification -/

def rank (d : List Nat) (a : Nat) : Nat := ((List.range a).filter (· ∈ d)).length

theorem rank_succ (d : List Nat) (a : Nat) : rank d (a + 1) = rank d a + if a ∈ d then 1 else 0 := by
  unfold rank
  rw [List.range_succ, List.filter_append, List.length_append]
  by_cases h : a ∈ d <;> simp [h]

theorem rank_mono (d : List Nat) {a b : Nat} (h : a ≤ b) : rank d a ≤ rank d b :=
  ((List.range_sublist.mpr h).filter _).length_le

theorem rank_lt_iff {d : List Nat} {a b : Nat} (ha : a ∈ d) : rank d a < rank d b ↔ a < b := by
  constructor
  · intro h
    exact Nat.lt_of_not_le fun hba => Nat.not_lt.mpr (rank_mono d hba) h
  · intro h
    have := rank_mono d (Nat.succ_le_of_lt h)
    rwa [rank_succ, if_pos ha] at this

theorem exists_rank_eq (d : List Nat) {r : Nat} (a : Nat) (h : r < rank d a) : ∃ b ∈ d, rank d b = r := by
  induction a with
  | zero => simp [rank] at h
  | succ a ih =>
    rw [rank_succ] at h
    split at h
    · rcases Nat.lt_or_eq_of_le (Nat.le_of_lt_succ h) with g | g
      · exact ih g
      · exact ⟨a, ‹_›, g.symm⟩
    · exact ih h

theorem densify (k : Nat) : ∀ d : List Nat, d.sum = k →
    ∃ d' : List Nat, d'.length = d.length ∧ DenseN d' ∧
      ∀ i j, i < d.length → j < d.length → (d.getD i 0 < d.getD j 0 ↔ d'.getD i 0 < d'.getD j 0) := by
  intro d _
  refine ⟨d.map (rank d), List.length_map _, fun x hx y hy => ?_, fun i j hi hj => ?_⟩
  · obtain ⟨a, _, rfl⟩ := List.mem_map.mp hx
    obtain ⟨b, hb, e⟩ := exists_rank_eq d a hy
    exact List.mem_map.mpr ⟨b, hb, e⟩
  · rw [getD_map_of_lt hi, getD_map_of_lt hj, getD_of_lt hi, getD_of_lt hj]
    exact (rank_lt_iff (List.getElem_mem hi)).symm

theorem exists_dense_same_cmp (v : List Int) :
    ∃ d : List Nat, d.length = v.length ∧ DenseN d ∧
      ∀ i j, i < v.length → j < v.length →
        compare (v.getD i 0) (v.getD j 0) = compare (d.getD i 0) (d.getD j 0) := by
  -- shifted by more than the bound every key is positive, so `toNat` keeps the order
  obtain ⟨d, hl, hd, hc⟩ := densify _ (v.map fun (a : Int) => (a + (L4.bound v + 1 : Nat)).toNat) rfl
  simp only [List.length_map] at hl hc
  refine ⟨d, hl, hd, ?_⟩
  have key : ∀ i j, i < v.length → j < v.length → (d.getD i 0 < d.getD j 0 ↔ v.getD i 0 < v.getD j 0) := by
    intro i j hi hj
    rw [← hc i j hi hj, getD_map_of_lt hi, getD_map_of_lt hj, ← getD_of_lt (d := 0) hi,
      ← getD_of_lt (d := 0) hj, Int.toNat_lt_toNat (by have := L4.natAbs_le_bound v j; omega),
      Int.add_lt_add_iff_right]
  intro i j hi hj
  rw [Int.compare_eq_ite_lt, Nat.compare_eq_ite_lt]
  simp only [key i j hi hj, key j i hj hi]

/-! ### the exhaustive optimum -/

theorem allWeakOrders_ne_nil (n : Nat) : allWeakOrders n ≠ [] := by
  intro e
  have := (allWeakOrders_spec n (List.replicate n 0)).mpr ⟨List.length_replicate, denseN_replicate n⟩
  rw [e] at this
  simp at this

theorem optScore_min (t : Table) (n : Nat) :
    optScore t n ∈ (allWeakOrders n).map (scoreN t) ∧ ∀ x ∈ (allWeakOrders n).map (scoreN t), optScore t n ≤ x := by
  unfold optScore
  split
  · rename_i e
    exact absurd (List.map_eq_nil_iff.mp e) (allWeakOrders_ne_nil n)
  · rename_i s ss e
    rw [e]
    exact foldl_min_spec ss s

theorem optScore_le (t : Table) (n : Nat) (d : List Nat) (h : d ∈ allWeakOrders n) :
    optScore t n ≤ scoreN t d :=
  (optScore_min t n).2 _ (List.mem_map.mpr ⟨d, h, rfl⟩)

theorem optScore_attained (t : Table) (n : Nat) : ∃ d ∈ allWeakOrders n, scoreN t d = optScore t n :=
  List.mem_map.mp (optScore_min t n).1

theorem optScore_le_scoreVec (t : Table) (n : Nat) (v : List Int) (hv : v.length = n) :
    optScore t n ≤ scoreVec t v := by
  obtain ⟨d, hl, hd, hc⟩ := exists_dense_same_cmp v
  have e : scoreVec t v = scoreN t d :=
    scoreVec_congr t v _ (by simp [hl]) fun i j hi hj => by rw [compare_getD_map_ofNat]; exact hc i j hi hj
  rw [e]
  exact optScore_le t n d ((allWeakOrders_spec n d).mpr ⟨hl.trans hv, hd⟩)

theorem optimal_iff (t : Table) (n : Nat) (v : List Int) :
    Optimal t n v ↔ v.length = n ∧ scoreVec t v = optScore t n := by
  constructor
  · rintro ⟨hl, ho⟩
    refine ⟨hl, ?_⟩
    obtain ⟨d, hd, e⟩ := optScore_attained t n
    have h1 := ho (d.map fun b => Int.ofNat b) (by simp [((allWeakOrders_spec n d).mp hd).1])
    have h2 := optScore_le_scoreVec t n v hl
    exact Int.le_antisymm (Int.le_trans h1 (Int.le_of_eq e)) h2
  · rintro ⟨hl, e⟩
    refine ⟨hl, fun w hw => ?_⟩
    rw [e]; exact optScore_le_scoreVec t n w hw

theorem optScore_spec (t : Table) (n : Nat) :
    (∀ v : List Int, v.length = n → optScore t n ≤ scoreVec t v) ∧
    (∀ v : List Int, Optimal t n v → scoreVec t v = optScore t n) :=
  ⟨optScore_le_scoreVec t n, fun v hv => ((optimal_iff t n v).mp hv).2⟩

theorem optima_spec (t : Table) (n : Nat) (d : List Nat) :
    d ∈ optima t n ↔ (d.length = n ∧ DenseN d ∧ Optimal t n (d.map fun b => Int.ofNat b)) := by
  unfold optima
  simp only [List.mem_filter, allWeakOrders_spec, optimal_iff, beq_iff_eq, List.length_map]
  unfold scoreN
  constructor
  · rintro ⟨⟨h1, h2⟩, h3⟩; exact ⟨h1, h2, h1, h3⟩
  · rintro ⟨h1, h2, _, h3⟩; exact ⟨⟨h1, h2⟩, h3⟩

/-! ### breaking ties -/

theorem noTieOK_pair (t : Table) (n : Nat) (θ : Int) (h : noTieOK t n θ = true) (p : Nat × Nat)
    (hp : p ∈ pairs (List.range n)) : t.bef p.1 p.2 + t.aft p.1 p.2 - 2 * t.tie p.1 p.2 ≤ θ := by
  unfold noTieOK ltPairs at h
  rw [List.all_eq_true] at h
  simpa using h p hp

/-- Ties broken one way and the other: a strict pair pays the same twice, a tied pair `bef + aft` for twice `tie`. -/
theorem costAt_break_ties (c : Cost) (h : c.1 + c.2.1 ≤ 2 * c.2.2) (o : Ordering) :
    costAt c (o.then .lt) + costAt c (o.then .gt) ≤ costAt c o + costAt c o := by
  cases o
  · exact Int.le_refl _
  · exact Int.two_mul _ ▸ h
  · exact Int.le_refl _

theorem prune_noties (t : Table) (n : Nat) (h : noTieOK t n 0 = true) (v : List Int) (hv : v.length = n) :
    ∃ w : List Int, w.length = n ∧ scoreVec t w ≤ scoreVec t v ∧
      ∀ i j, i < n → j < n → i ≠ j → w.getD i 0 ≠ w.getD j 0 := by
  -- the ties of `v` broken by increasing ids (`asc`) and by decreasing ids (`desc`): one of the two is no dearer
  let asc : Nat → Int := fun i => (i : Int)
  let desc : Nat → Int := fun i => -(i : Int)
  have hasc : ∀ i j, i < n → j < n → asc i - asc j < (n : Int) := by intro i j hi hj; simp only [asc]; omega
  have hdesc : ∀ i j, i < n → j < n → desc i - desc j < (n : Int) := by intro i j hi hj; simp only [desc]; omega
  have hsum : scoreVec t (lex n (v.getD · 0) asc n) + scoreVec t (lex n (v.getD · 0) desc n) ≤
      scoreVec t v + scoreVec t v := by
    unfold scoreVec
    rw [lex_length, lex_length, hv, ← isum_map_add, ← isum_map_add]
    apply isum_map_le
    intro p hp
    obtain ⟨q1, q2⟩ := mem_pairs_range p hp
    have hb := noTieOK_pair t n 0 h p hp
    rw [sel_lex t hasc p.1 p.2 (Nat.lt_trans q1 q2) q2, sel_lex t hdesc p.1 p.2 (Nat.lt_trans q1 q2) q2, sel_eq t v,
      Int.compare_eq_lt.mpr (show asc p.1 < asc p.2 from Int.ofNat_lt.mpr q1),
      Int.compare_eq_gt.mpr (show desc p.2 < desc p.1 from Int.neg_lt_neg (Int.ofNat_lt.mpr q1))]
    exact costAt_break_ties _ (Int.le_of_sub_nonpos hb) _
  by_cases hc : scoreVec t (lex n (v.getD · 0) asc n) ≤ scoreVec t v
  · exact ⟨_, lex_length .., hc, fun i j hi hj hij => lex_ne hasc i j hi hj fun e => hij (Int.ofNat_inj.mp e)⟩
  · exact ⟨lex n (v.getD · 0) desc n, lex_length .., by omega, fun i j hi hj hij =>
      lex_ne hdesc i j hi hj fun e => hij (Int.ofNat_inj.mp (Int.neg_inj.mp e))⟩

end WO
end Corankco
