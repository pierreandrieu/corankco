import Corankco.Lemmas.Basic
import Corankco.Spec.Bio
/-
  Dense vectors of bucket ids (`Spec.DenseN`): the ids in use are exactly `0 .. max`, so they are bounded by the length;
  their number `nbOf`; the renumberings `up p`, which makes room for a new id `p`, and `down x`, which closes the unused
  id `x`, inverse to each other away from that id.
-/
namespace Corankco
open Model Spec

theorem Spec.DenseN.mem_iff_le {r : List Nat} (hd : DenseN r) (hne : 0 < r.length) (c : Nat) :
    c ∈ r ↔ c ≤ r.foldl max 0 := by
  obtain ⟨hM, hle⟩ := foldl_max_spec r 0
  refine ⟨fun hc => hle c (List.mem_cons_of_mem _ hc), fun hc => ?_⟩
  have h0 : r.getD 0 0 ∈ r := getD_mem 0 hne
  have hM : r.foldl max 0 ∈ r := by
    rcases List.mem_cons.mp hM with h | h
    · have := hle _ (List.mem_cons_of_mem _ h0)
      rwa [h, ← show r.getD 0 0 = 0 by omega]
    · exact h
  rcases Nat.lt_or_eq_of_le hc with h | h
  · exact hd _ hM c h
  · rwa [h]

theorem denseN_of_mem_iff_le (r : List Nat) (M : Nat) (h : ∀ c, c ∈ r ↔ c ≤ M) : DenseN r ∧ r.foldl max 0 = M :=
  ⟨fun a ha b hb => (h b).mpr (Nat.le_trans (Nat.le_of_lt hb) ((h a).mp ha)),
    foldl_max_eq r M (fun v hv => (h v).mp hv) ((h M).mpr (Nat.le_refl _))⟩

theorem denseN_replicate (n : Nat) : DenseN (List.replicate n 0) := by
  intro a ha b hb
  have := List.eq_of_mem_replicate ha
  omega

theorem Spec.DenseN.lt_length {r : List Nat} (hd : DenseN r) : ∀ v ∈ r, v < r.length := by
  intro v hv
  have := List.nodup_range.length_le_of_subset (l₂ := r) (l₁ := List.range (v + 1)) fun k hk => by
    rcases Nat.lt_succ_iff_lt_or_eq.mp (List.mem_range.mp hk) with g | g
    · exact hd v hv k g
    · exact g ▸ hv
  rwa [List.length_range] at this

theorem Spec.DenseN.max_lt_length {r : List Nat} (hd : DenseN r) (hne : 0 < r.length) : r.foldl max 0 < r.length :=
  DenseN.lt_length hd _ ((DenseN.mem_iff_le hd hne _).mpr (Nat.le_refl _))

/-- number of ids in use of a dense vector, as `extendWeak` computes it -/
def nbOf (v : List Nat) : Nat := if v.isEmpty then 0 else v.foldl max 0 + 1

theorem Spec.DenseN.mem_iff_lt {v : List Nat} (hd : DenseN v) (c : Nat) : c ∈ v ↔ c < nbOf v := by
  unfold nbOf
  cases v with
  | nil => simp
  | cons a l =>
    rw [DenseN.mem_iff_le hd (by simp), List.isEmpty_cons, if_neg Bool.false_ne_true, Nat.lt_succ_iff]

theorem denseN_of_mem_iff_lt (v : List Nat) (m : Nat) (h : ∀ c, c ∈ v ↔ c < m) : DenseN v ∧ nbOf v = m := by
  have hd : DenseN v := fun a ha b hb => (h b).mpr (Nat.lt_trans hb ((h a).mp ha))
  have h1 := (h (nbOf v)).symm.trans (DenseN.mem_iff_lt hd _)
  have h2 := (h m).symm.trans (DenseN.mem_iff_lt hd _)
  exact ⟨hd, by omega⟩

theorem Spec.DenseN.lt_eraseDups_length_iff {v : List Nat} (hd : DenseN v) {b : Nat} :
    b < v.eraseDups.length ↔ b ∈ v := by
  have hm := DenseN.mem_iff_lt hd
  have hperm : v.eraseDups.Perm (List.range (nbOf v)) :=
    (List.perm_ext_iff_of_nodup (nodup_eraseDups v) List.nodup_range).mpr fun a => by
      rw [List.mem_eraseDups, List.mem_range, hm]
  rw [hperm.length_eq, List.length_range, hm]

def up (p b : Nat) : Nat := if b ≥ p then b + 1 else b
def down (x b : Nat) : Nat := if b > x then b - 1 else b

theorem down_up (p b : Nat) : down p (up p b) = b :=
  iteInduction (motive := fun u => down p u = b) (fun h => if_pos (Nat.lt_succ_of_le h))
    fun h => if_neg fun h' => h (Nat.le_of_lt h')

theorem up_down {x c : Nat} (h : c ≠ x) : up x (down x c) = c :=
  iteInduction (motive := fun d => up x d = c)
    (fun hc => (if_pos (Nat.le_sub_one_of_lt hc)).trans (Nat.sub_add_cancel (Nat.zero_lt_of_lt hc)))
    fun hc => if_neg fun hx => hc (Nat.lt_of_le_of_ne hx (Ne.symm h))

theorem up_ne (p b : Nat) : up p b ≠ p := by
  unfold up; split <;> omega

theorem up_lt_up (p : Nat) {u v : Nat} (h : u < v) : up p u < up p v := by
  by_cases hu : p ≤ u
  · rw [up, up, if_pos hu, if_pos (Nat.le_trans hu (Nat.le_of_lt h))]
    exact Nat.succ_lt_succ h
  · rw [up, if_neg hu]
    exact Nat.lt_of_lt_of_le h (iteInduction (fun _ => Nat.le_succ v) fun _ => Nat.le_refl v)

end Corankco
