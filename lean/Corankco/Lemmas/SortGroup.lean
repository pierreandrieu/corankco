import Corankco.Lemmas.Dataset
/-
  The shared "sort-and-group" layer (L5 of DESIGN.md).  `sortBy le l` is a permutation of `l`, sorted when `le` is a
  total preorder on the members (`TotalPreorderOn P le`: totality and transitivity asked only where `P` holds);
  `groupAdj eq` cuts a list into non-empty groups.  On a sorted list, with `eq a b = (le a b && le b a)`, the groups of
  two items compare as the items do (`bIdx_le_iff`): one more item in front leaves every bucket index where it is if it
  joins the first group and moves it up by one if not (`bIdx_step`).  That is `Spec.ordersBy` (`ordersBy_sortGroup`),
  from which the place of a pair is read off (`cmpIn_of_ordersBy`, `cmpIn_congr`).
-/
namespace Corankco
open Model

theorem cmpIn_eq (r : Ranking) (x y : Elem) : Spec.cmpIn r x y = compare (bIdx r x) (bIdx r y) := rfl

namespace SortGroup

variable {α : Type}

/-! ### `insertBy`, `sortBy` -/

theorem insertBy_perm (le : α → α → Bool) (a : α) (l : List α) : (insertBy le a l).Perm (a :: l) := by
  fun_induction insertBy le a l with
  | case1 => exact .refl _
  | case2 b l _ ih => exact (ih.cons b).trans (.swap a b l)
  | case3 => exact .refl _

theorem sortBy_eq (le : α → α → Bool) (l : List α) : sortBy le l = l.reverse.foldr (insertBy le) [] :=
  List.foldl_eq_foldr_reverse

theorem foldr_insertBy_perm (le : α → α → Bool) (l : List α) : (l.foldr (insertBy le) []).Perm l := by
  induction l with
  | nil => exact .refl _
  | cons a l ih => exact (insertBy_perm le a _).trans (ih.cons a)

theorem sortBy_perm (le : α → α → Bool) (l : List α) : (sortBy le l).Perm l := by
  rw [sortBy_eq]
  exact (foldr_insertBy_perm le _).trans (List.reverse_perm l)

theorem mem_insertBy {le : α → α → Bool} {a x : α} {l : List α} : x ∈ insertBy le a l ↔ x = a ∨ x ∈ l := by
  rw [(insertBy_perm le a l).mem_iff, List.mem_cons]

theorem mem_sortBy {le : α → α → Bool} {x : α} {l : List α} : x ∈ sortBy le l ↔ x ∈ l :=
  (sortBy_perm le l).mem_iff

structure TotalPreorderOn (P : α → Prop) (le : α → α → Bool) : Prop where
  tot : ∀ a b, P a → P b → le a b = true ∨ le b a = true
  tr : ∀ a b c, P a → P b → P c → le a b = true → le b c = true → le a c = true

theorem TotalPreorderOn.refl {P : α → Prop} {le : α → α → Bool} (ho : TotalPreorderOn P le) {a : α} (ha : P a) :
    le a a = true :=
  (ho.tot a a ha ha).elim id id

theorem insertBy_sorted {P : α → Prop} {le : α → α → Bool} (ho : TotalPreorderOn P le) (a : α) (l : List α)
    (ha : P a) (hl : ∀ b ∈ l, P b) (hs : l.Pairwise (fun x y => le x y = true)) :
    (insertBy le a l).Pairwise (fun x y => le x y = true) := by
  fun_induction insertBy le a l with
  | case1 => exact List.pairwise_singleton ..
  | case2 b l h ih =>
    rw [List.forall_mem_cons] at hl
    rw [List.pairwise_cons] at hs ⊢
    refine ⟨fun c hc => ?_, ih hl.2 hs.2⟩
    rcases mem_insertBy.mp hc with rfl | hc
    · exact h
    · exact hs.1 c hc
  | case3 b l h =>
    rw [List.forall_mem_cons] at hl
    have hab := (ho.tot a b ha hl.1).resolve_right h
    refine List.pairwise_cons.mpr ⟨fun c hc => ?_, hs⟩
    rw [List.pairwise_cons] at hs
    rcases List.mem_cons.mp hc with rfl | hc
    · exact hab
    · exact ho.tr a b c ha hl.1 (hl.2 c hc) hab (hs.1 c hc)

theorem foldr_insertBy_sorted {P : α → Prop} {le : α → α → Bool} (ho : TotalPreorderOn P le) (l : List α)
    (hl : ∀ b ∈ l, P b) : (l.foldr (insertBy le) []).Pairwise (fun x y => le x y = true) := by
  induction l with
  | nil => exact .nil
  | cons a l ih =>
    rw [List.forall_mem_cons] at hl
    exact insertBy_sorted ho a _ hl.1 (fun b hb => hl.2 b ((foldr_insertBy_perm le l).mem_iff.mp hb)) (ih hl.2)

theorem sortBy_sorted {P : α → Prop} {le : α → α → Bool} (ho : TotalPreorderOn P le) (l : List α)
    (hl : ∀ b ∈ l, P b) : (sortBy le l).Pairwise (fun x y => le x y = true) := by
  rw [sortBy_eq]
  exact foldr_insertBy_sorted ho _ fun b hb => hl b (List.mem_reverse.mp hb)

/-! ### `groupAdj` -/

theorem groupAdj_flatten (eq : α → α → Bool) (l : List α) : (groupAdj eq l).flatten = l := by
  fun_induction groupAdj eq l <;> simp_all

theorem groupAdj_ne_nil (eq : α → α → Bool) (l : List α) : [] ∉ groupAdj eq l := by
  fun_induction groupAdj eq l <;> simp_all

theorem groupAdj_cons (eq : α → α → Bool) (a : α) (l : List α) :
    ∃ g gs, groupAdj eq (a :: l) = (a :: g) :: gs := by
  rw [groupAdj]
  split
  · exact ⟨_, _, rfl⟩
  · split
    · exact ⟨_, _, rfl⟩
    · split <;> exact ⟨_, _, rfl⟩

theorem groupAdj_cons_cons (eq : α → α → Bool) (a b : α) (l : List α) :
    ∃ g gs, groupAdj eq (b :: l) = (b :: g) :: gs ∧
      groupAdj eq (a :: b :: l) = if eq a b then (a :: b :: g) :: gs else [a] :: groupAdj eq (b :: l) := by
  obtain ⟨g, gs, h⟩ := groupAdj_cons eq b l
  exact ⟨g, gs, h, by rw [groupAdj, h]⟩

theorem groupAdj_run {κ : Type} [BEq κ] [LawfulBEq κ] (key : α → κ) (p : α) (ps l : List α)
    (hc : ∀ x ∈ ps, key x = key p) (hl : ∀ e ∈ l.head?, key e ≠ key p) :
    groupAdj (fun a b => key a == key b) (p :: ps ++ l) = (p :: ps) :: groupAdj (fun a b => key a == key b) l := by
  induction ps generalizing p with
  | nil =>
    cases l with
    | nil => rfl
    | cons e l =>
      obtain ⟨g, gs, -, h⟩ := groupAdj_cons_cons (fun a b => key a == key b) p e l
      exact h.trans (if_neg (by simpa using Ne.symm (hl e rfl)))
  | cons q qs ih =>
    have hq := hc q (by simp)
    rw [List.cons_append, groupAdj, ih q (fun x hx => by rw [hc x (by simp [hx]), hq]) (by rwa [hq])]
    simp [hq]

/-! ### bucket indices in a grouped list, read through `k` -/

theorem bIdx_head (eq : α → α → Bool) (k : α → Elem) (a : α) (l : List α) :
    bIdx ((groupAdj eq (a :: l)).map (List.map k)) (k a) = 0 := by
  obtain ⟨g, gs, h⟩ := groupAdj_cons eq a l
  rw [h]
  exact bIdx_cons_of_mem List.mem_cons_self _

theorem bIdx_step (eq : α → α → Bool) (k : α → Elem) (a b : α) (l : List α) {c : α} (hc : c ∈ b :: l)
    (hne : k c ≠ k a) :
    bIdx ((groupAdj eq (a :: b :: l)).map (List.map k)) (k c) =
      bIdx ((groupAdj eq (b :: l)).map (List.map k)) (k c) + if eq a b then 0 else 1 := by
  have hm : k c ∈ ((groupAdj eq (b :: l)).map (List.map k)).flatten := by
    rw [← List.map_flatten, groupAdj_flatten]
    exact List.mem_map_of_mem hc
  obtain ⟨g, gs, h, h'⟩ := groupAdj_cons_cons eq a b l
  rw [h']
  split
  · rw [h]
    exact bIdx_cons_cons_ne hne ..
  · exact bIdx_cons_of_not_mem (by simpa using hne) hm

theorem bIdx_le_iff {P : α → Prop} {le : α → α → Bool} (ho : TotalPreorderOn P le) {eq : α → α → Bool}
    (heq : ∀ a b, P a → P b → eq a b = (le a b && le b a)) (k : α → Elem)
    (s : List α) (hP : ∀ a ∈ s, P a) (hs : s.Pairwise (fun x y => le x y = true)) (hnd : (s.map k).Nodup) :
    ∀ x ∈ s, ∀ y ∈ s,
      (bIdx ((groupAdj eq s).map (List.map k)) (k x) ≤ bIdx ((groupAdj eq s).map (List.map k)) (k y) ↔
        le x y = true) := by
  induction s with
  | nil => nofun
  | cons a l ih =>
    have ha := hP a (List.mem_cons_self ..)
    cases l with
    | nil =>
      intro x hx y hy
      rw [List.mem_singleton.mp hx, List.mem_singleton.mp hy]
      exact iff_of_true (Nat.le_refl _) (ho.refl ha)
    | cons b l =>
      have hP' : ∀ c ∈ b :: l, P c := fun c hc => hP c (List.mem_cons_of_mem _ hc)
      have hb := hP' b (List.mem_cons_self ..)
      rw [List.pairwise_cons] at hs
      have hab := hs.1 b (List.mem_cons_self ..)
      rw [List.map_cons, List.nodup_cons] at hnd
      have step : ∀ c ∈ b :: l, _ := fun c hc =>
        bIdx_step eq k a b l hc fun e => hnd.1 (e ▸ List.mem_map_of_mem hc)
      have ih := ih hP' hs.2 hnd.2
      intro x hx y hy
      rcases List.mem_cons.mp hx with rfl | hx' <;> rcases List.mem_cons.mp hy with rfl | hy'
      · exact iff_of_true (Nat.le_refl _) (ho.refl ha)
      · rw [bIdx_head]
        exact iff_of_true (Nat.zero_le _) (hs.1 y hy')
      · -- `x` stays in the first group iff it was in the group of `b` and `y` (the new head) joins that group
        have hx0 := ih x hx' b (List.mem_cons_self ..)
        rw [bIdx_head, Nat.le_zero] at hx0
        have hy0 : (if eq y b = true then 0 else 1) = 0 ↔ le b y = true := by
          rw [heq y b ha hb, hab]
          cases le b y <;> decide
        have hbx : le b x = true := by
          rcases List.mem_cons.mp hx' with rfl | h
          · exact ho.refl hb
          · exact List.rel_of_pairwise_cons hs.2 h
        have hx := hP' x hx'
        rw [bIdx_head, Nat.le_zero, step x hx', Nat.add_eq_zero_iff, hx0, hy0]
        exact ⟨fun h => ho.tr x b y hx hb ha h.1 h.2, fun h => ⟨ho.tr x y b hx ha hb h hab, ho.tr b x y hb hx ha hbx h⟩⟩
      · rw [step x hx', step y hy', Nat.add_le_add_iff_right, ih x hx' y hy']

/-! ### `ordersBy` -/

theorem ordersBy_of_bIdx {univ : List Elem} {le : Elem → Elem → Bool} {r : Ranking}
    (hw : Spec.wellFormedRanking univ r = true)
    (h : ∀ x ∈ univ, ∀ y ∈ univ, (bIdx r x ≤ bIdx r y ↔ le x y = true)) : Spec.ordersBy univ le r = true := by
  unfold Spec.ordersBy
  simp only [hw, Bool.true_and, List.all_eq_true]
  intro x hx y hy
  have h1 := h x hx y hy
  have h2 := h y hy x hx
  rw [cmpIn_eq]
  rcases compare_nat_cases (bIdx r x) (bIdx r y) with ⟨c, e⟩ | ⟨c, e⟩ | ⟨c, e⟩ <;> rw [e]
  · rw [h1.mp (Nat.le_of_lt c), Bool.eq_false_iff.mpr (mt h2.mpr (Nat.not_le_of_lt c))]; rfl
  · rw [h1.mp (Nat.le_of_eq c), h2.mp (Nat.le_of_eq c.symm)]; rfl
  · rw [h2.mp (Nat.le_of_lt c), Bool.eq_false_iff.mpr (mt h1.mpr (Nat.not_le_of_lt c))]; rfl

/-- The shape Borda, Copeland and the ILP decoder share: the elements `l` (those of `univ`, each once), each paired with
    a key `f x`, are sorted by `le` and grouped by `eq`, and the keys are dropped again. -/
theorem ordersBy_sortGroup {κ : Type} {P : Elem × κ → Prop} {le : Elem × κ → Elem × κ → Bool}
    (ho : TotalPreorderOn P le) {eq : Elem × κ → Elem × κ → Bool}
    (heq : ∀ a b, P a → P b → eq a b = (le a b && le b a)) {univ l : List Elem} (hnd : l.Nodup)
    (hmem : ∀ x, x ∈ l ↔ x ∈ univ) {f : Elem → κ} (hP : ∀ x ∈ l, P (x, f x)) {le' : Elem → Elem → Bool}
    (hk : ∀ x ∈ l, ∀ y ∈ l, le (x, f x) (y, f y) = le' x y) :
    Spec.ordersBy univ le' ((groupAdj eq (sortBy le (l.map fun x => (x, f x)))).map fun g => g.map (·.1)) = true := by
  have pm : ((sortBy le (l.map fun x => (x, f x))).map (·.1)).Perm l := by
    simpa [Function.comp_def] using (sortBy_perm le (l.map fun x => (x, f x))).map (·.1)
  have hP' := List.forall_mem_map.mpr hP
  apply ordersBy_of_bIdx
  · rw [wellFormed_iff, ← List.map_flatten, groupAdj_flatten]
    refine ⟨?_, pm.nodup_iff.mpr hnd, fun x hx => (hmem x).mp (pm.mem_iff.mp hx),
      fun x hx => pm.mem_iff.mpr ((hmem x).mpr hx)⟩
    intro b hb e
    obtain ⟨g, hg, rfl⟩ := List.mem_map.mp hb
    exact groupAdj_ne_nil eq _ (List.map_eq_nil_iff.mp e ▸ hg)
  · intro x hx y hy
    have hx := (hmem x).mpr hx
    have hy := (hmem y).mpr hy
    rw [← hk x hx y hy]
    exact bIdx_le_iff ho heq (·.1) _ (fun c hc => hP' c (mem_sortBy.mp hc)) (sortBy_sorted ho _ hP')
      (pm.nodup_iff.mpr hnd) (x, f x) (mem_sortBy.mpr (List.mem_map_of_mem hx))
      (y, f y) (mem_sortBy.mpr (List.mem_map_of_mem hy))

theorem wellFormed_of_ordersBy {univ : List Elem} {le : Elem → Elem → Bool} {r : Ranking}
    (h : Spec.ordersBy univ le r = true) : Spec.wellFormedRanking univ r = true := by
  unfold Spec.ordersBy at h
  rw [Bool.and_eq_true] at h
  exact h.1

/-- `ordersBy` excludes the fourth combination, neither element below the other. -/
theorem cmpIn_of_ordersBy {univ : List Elem} {le : Elem → Elem → Bool} {r : Ranking}
    (h : Spec.ordersBy univ le r = true) {x y : Elem} (hx : x ∈ univ) (hy : y ∈ univ) :
    Spec.cmpIn r x y = if le x y then (if le y x then .eq else .lt) else .gt := by
  unfold Spec.ordersBy at h
  simp only [Bool.and_eq_true, List.all_eq_true] at h
  have a := h.2 x hx y hy
  revert a
  -- whichever clause of `ordersBy` applies, it gives the values of both `le x y` and `le y x`
  cases Spec.cmpIn r x y <;> simp +contextual

theorem cmpIn_congr {univ univ' : List Elem} {le le' : Elem → Elem → Bool} {r r' : Ranking}
    (h : Spec.ordersBy univ le r = true) (h' : Spec.ordersBy univ' le' r' = true) (f : Elem → Elem)
    (hf : ∀ x ∈ univ, f x ∈ univ') (hle : ∀ x y, le' (f x) (f y) = le x y) :
    ∀ x ∈ univ, ∀ y ∈ univ, Spec.cmpIn r x y = Spec.cmpIn r' (f x) (f y) := by
  intro x hx y hy
  rw [cmpIn_of_ordersBy h hx hy, cmpIn_of_ordersBy h' (hf x hx) (hf y hy), hle, hle]

end SortGroup
end Corankco
