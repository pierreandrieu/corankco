import Corankco.Lemmas.Invariance
/-
  C01b — sanity theorems about the definition of the generalised Kemeny score (`Spec.kemeny`):
  it is insensitive to what must not matter.
-/
namespace Corankco
open Model Spec

/-- The score does not depend on the order of the rankings in the dataset. -/
theorem C01_perm_dataset (S : Scheme) (D D' : Dataset) (c : Ranking) (h : D.Perm D') :
    kemeny S D c = kemeny S D' c :=
  isum_map_perm (kemenyOne S c) h

/-- The score does not depend on the order of the members inside the buckets of the candidate: only `T0 = T1` and
    `T3 = T4` are used, and the candidate need not be repetition-free. -/
theorem C01_perm_candidate_members' (S : Scheme) (h01 : S.t0 = S.t1) (h34 : S.t3 = S.t4) (D : Dataset)
    (c c' : Ranking) (h : List.Forall₂ (fun b b' => b.Perm b') c c') : kemeny S D c = kemeny S D c' :=
  isum_map_congr fun r _ => Invariance.kemenyOne_candidate_members S h01 h34 h r

/-- The same for a valid scheme and a repetition-free candidate. -/
theorem C01_perm_candidate_members (S : Scheme) (hS : S.Valid) (D : Dataset) (c c' : Ranking)
    (_hc : c.flatten.Nodup) (h : List.Forall₂ (fun b b' => b.Perm b') c c') : kemeny S D c = kemeny S D c' :=
  C01_perm_candidate_members' S hS.t01 hS.t34 D c c' h

/-- The score does not depend on the order of the members inside the buckets of the input rankings. -/
theorem C01_perm_input_members (S : Scheme) (D D' : Dataset) (c : Ranking)
    (h : List.Forall₂ (fun r r' => List.Forall₂ (fun b b' => b.Perm b') r r') D D') :
    kemeny S D c = kemeny S D' c := by
  unfold kemeny
  induction h with
  | nil => rfl
  | cons hr _ ih =>
    simp only [List.map_cons, isum_cons, ih, Invariance.kemenyOne_input_members S hr c]

/-- The score is unchanged by an injective renaming of the elements. -/
theorem C01_rename (S : Scheme) (D : Dataset) (c : Ranking) (f : Elem → Elem) (hf : Function.Injective f) :
    kemeny S (D.map fun r => r.map fun b => b.map f) (c.map fun b => b.map f) = kemeny S D c :=
  isum_map_map (fun r => Invariance.kemenyOne_rename hf S c r) D

/-- The validity constraints are needed for the candidate's members: with `T0 ≠ T1` the score of a tied pair
    depends on which member the candidate lists first. -/
example :
    let S : Scheme := { b0 := 0, b1 := 1, b2 := 1, b3 := 0, b4 := 1, b5 := 0,
                        t0 := 1, t1 := 2, t2 := 0, t3 := 0, t4 := 0, t5 := 0 }
    ¬ S.Valid ∧ kemeny S [[[0], [1]]] [[0, 1]] = 1 ∧ kemeny S [[[0], [1]]] [[1, 0]] = 2 := by
  decide +kernel

/-- Non-vacuity: a valid scheme, a dataset with ties and a missing element, all four transformations at once. -/
example :
    let S : Scheme := { b0 := 0, b1 := 2, b2 := 1, b3 := 0, b4 := 2, b5 := 0,
                        t0 := 2, t1 := 2, t2 := 0, t3 := 1, t4 := 1, t5 := 0 }
    S.Valid ∧
    kemeny S [[[0, 1], [2]], [[2], [1]]] [[1], [0, 2]] = 6 ∧
    kemeny S [[[2], [1]], [[1, 0], [2]]] [[1], [2, 0]] = 6 ∧
    kemeny S [[[12], [11]], [[11, 10], [12]]] [[11], [12, 10]] = 6 := by
  decide +kernel

end Corankco
