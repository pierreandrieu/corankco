import Corankco.Lemmas.Status
import Corankco.Spec.C02
/-
  The cost table.  The tests `stepCost` makes on two rank values compute a status (`rankStatus`,
  `stepCost_rankStatus`), and on the values of a rank function (`RankFn`: `posIn` and `bidIn`, through their closed
  forms `posIn_eq`, `bidIn_eq` and `rankFn_of_closed`) that status is `Spec.status`.  So the table the code builds from
  either matrix is the table of the definition as soon as `T` is symmetric (`costMatrix_rankFn_eq_specTable`), and the
  entry a complete candidate selects for a pair is the pair's penalty summed over the rankings (`sel_specTable`).
-/
namespace Corankco
open Model Spec

/-- The status of a pair as `stepCost` reads it on the two rank values (`-1`: unranked). -/
def rankStatus (a b : Int) : Nat :=
  if a ≠ -1 ∧ b ≠ -1 then
    if a < b then 0 else if a > b then 1 else 2
  else if a ≠ -1 then 3
  else if b ≠ -1 then 4
  else 5

theorem stepCost_rankStatus (S : Scheme) (a b : Int) :
    stepCost S a b = (S.B (rankStatus a b), S.B (swapSt (rankStatus a b)), S.T (rankStatus a b)) := by
  unfold stepCost rankStatus
  simp only [apply_ite fun k => (S.B k, S.B (swapSt k), S.T k)]
  rfl

/-- A function `q r x` with values `≥ -1` (so that `a + b == -2` tests "both unranked": `rankStatus_tests` of
    Lemmas/C11) on which the tests of the code find the status of every pair. -/
structure RankFn (q : Ranking → Elem → Int) : Prop where
  ge : ∀ r x, -1 ≤ q r x
  status : ∀ r x y, status r x y = rankStatus (q r x) (q r y)

/-- The shape of `bidIn_eq` and `posIn_eq`.  `f` need increase only from the bucket of a ranked element, which is not
    empty, to a later index. -/
theorem rankFn_of_closed {q : Ranking → Elem → Int} (f : Ranking → Nat → Nat)
    (hq : ∀ r x, q r x = (bucketIdx r x).elim (-1) fun i => (f r i : Int))
    (hf : ∀ r x i j, bucketIdx r x = some i → i < j → f r i < f r j) : RankFn q := by
  refine ⟨fun r x => ?_, fun r x y => ?_⟩
  · rw [hq]
    cases bucketIdx r x with
    | none => exact Int.le_refl _
    | some i => exact Int.le_trans (by decide) (Int.natCast_nonneg _)
  · have hn : ∀ n : Nat, (n : Int) ≠ -1 := fun n => by omega
    unfold status rankStatus
    rw [hq, hq]
    cases hx : bucketIdx r x with
    | none => cases bucketIdx r y <;> simp [hn]
    | some i =>
      cases hy : bucketIdx r y with
      | none => simp [hn]
      | some j =>
        rcases Nat.lt_trichotomy i j with h | h | h
        · have := hf r x i j hx h
          simp [hn, h, Int.ofNat_lt.mpr this]
        · simp [hn, h]
        · have := hf r y j i hy h
          simp [hn, h, Nat.lt_asymm h, Int.ofNat_lt.mpr this, Nat.lt_asymm this]

theorem bidIn_eq (r : Ranking) (x : Elem) : bidIn r x = (bucketIdx r x).elim (-1) fun i => (i : Int) := by
  induction r with
  | nil => rfl
  | cons b bs ih =>
    unfold bidIn bucketIdx
    split
    · rfl
    · rw [ih]
      cases bucketIdx bs x with
      | none => rfl
      | some k => exact if_neg (Int.not_lt.mpr (Int.natCast_nonneg k))

theorem toNat_bidIn (r : Ranking) (x : Elem) : (bidIn r x).toNat = bIdx r x := by
  rw [bidIn_eq, bIdx]
  cases bucketIdx r x <;> rfl

theorem bidIn_of_some {r : Ranking} {x : Elem} {i : Nat} (h : bucketIdx r x = some i) :
    bidIn r x = (i : Int) := by
  rw [bidIn_eq, h]; rfl

theorem bidIn_of_mem {c : Ranking} (hn : c.flatten.Nodup) {k : Nat} (hk : k < c.length) {x : Elem}
    (hx : x ∈ c[k]) : bidIn c x = (k : Int) :=
  bidIn_of_some (bucketIdx_of_mem hn hk hx)

theorem bidIn_congr {r r' : Ranking} {x x' : Elem} (h : bucketIdx r x = bucketIdx r' x') :
    bidIn r x = bidIn r' x' := by
  rw [bidIn_eq, bidIn_eq, h]

theorem bidIn_nonneg {r : Ranking} {x : Elem} (h : x ∈ r.flatten) : 0 ≤ bidIn r x := by
  obtain ⟨i, hi⟩ := exists_bucketIdx_eq_some h
  exact bidIn_of_some hi ▸ Int.natCast_nonneg i

theorem bidIn_lt_length {r : Ranking} {x : Elem} (h : x ∈ r.flatten) : bidIn r x < r.length := by
  obtain ⟨i, hi⟩ := exists_bucketIdx_eq_some h
  exact bidIn_of_some hi ▸ Int.ofNat_lt.mpr (bucketIdx_lt_length hi)

theorem rankFn_bidIn : RankFn bidIn :=
  rankFn_of_closed (fun _ i => i) bidIn_eq fun _ _ _ _ _ h => h

theorem posIn_eq (r : Ranking) (x : Elem) :
    posIn r x = (bucketIdx r x).elim (-1) fun i => ((((r.take i).map List.length).sum : Nat) : Int) := by
  induction r with
  | nil => rfl
  | cons b bs ih =>
    unfold posIn bucketIdx
    split
    · rfl
    · rw [ih]
      cases bucketIdx bs x with
      | none => rfl
      | some k =>
        simp only [Option.elim, Option.map, List.take_succ_cons, List.map_cons, List.sum_cons]
        rw [Int.natCast_add, Int.add_comm]
        exact if_neg (Int.not_lt.mpr (Int.natCast_nonneg _))

theorem rankFn_posIn : RankFn posIn := by
  refine rankFn_of_closed (fun r i => ((r.take i).map List.length).sum) posIn_eq fun r x i j hx hij => ?_
  -- the bucket of `x` is not empty and lies in `r.take j`, not in `r.take i`
  obtain ⟨hi, hm⟩ := mem_getElem_of_bucketIdx_eq_some hx
  obtain ⟨d, rfl⟩ := Nat.exists_eq_add_of_le hij
  rw [List.take_add, List.take_succ_eq_append_getElem hi]
  simp only [List.map_append, List.sum_append, List.map_cons, List.map_nil, List.sum_cons, List.sum_nil]
  exact Nat.lt_add_right _ (Nat.lt_add_of_pos_right (List.length_pos_of_mem hm))

theorem pairCost_rankFn {p : Ranking → Elem → Int} (hp : RankFn p) (S : Scheme) (D : Dataset) (x y : Elem) :
    pairCost S (D.map fun r => p r x) (D.map fun r => p r y) =
      (before S D x y, after S D x y, tied S D x y) := by
  induction D with
  | nil => rfl
  | cons r rs ih =>
    simp only [List.map_cons, pairCost, ih, stepCost_rankStatus, ← hp.status, ← status_swap]
    rfl

theorem T_status_swap (S : Scheme) (h01 : S.t0 = S.t1) (h34 : S.t3 = S.t4) (r : Ranking) (x y : Elem) :
    S.T (status r x y) = S.T (status r y x) := by
  have h : ∀ k, S.T k = S.T (swapSt k)
    | 0 => h01 | 1 => h01.symm | 2 => rfl | 3 => h34 | 4 => h34.symm | _ + 5 => rfl
  rw [status_swap r x y]
  exact h _

theorem tied_swap (S : Scheme) (h01 : S.t0 = S.t1) (h34 : S.t3 = S.t4) (D : Dataset) (x y : Elem) :
    tied S D x y = tied S D y x := by
  unfold tied
  exact isum_map_congr (fun r _ => T_status_swap S h01 h34 r x y)

theorem costMatrix_rankFn_eq_specTable {p : Ranking → Elem → Int} (hp : RankFn p)
    (S : Scheme) (h01 : S.t0 = S.t1) (h34 : S.t3 = S.t4) (D : Dataset) :
    costMatrix S ((univOf D).map fun x => D.map fun r => p r x) = specTable S D := by
  unfold costMatrix specTable
  rw [List.length_map]
  refine map_range_eq_map fun i hi => map_range_eq_map fun j hj => ?_
  rw [getD_map_of_lt hi, getD_map_of_lt hj, pairCost_rankFn hp, pairCost_rankFn hp]
  rcases Nat.lt_trichotomy i j with h | h | h
  · rw [if_pos h, if_neg (nodup_getElem_ne (nodup_univOf D) hi hj (Nat.ne_of_lt h))]
  · subst h
    rw [if_neg (Nat.lt_irrefl i), if_neg (Nat.lt_irrefl i), if_pos rfl]
  -- `j < i`: the code mirrors the lower triangle from the upper one, so its `tied` entry is `tied y x`, not `tied x y`
  · rw [if_neg (Nat.lt_asymm h), if_pos h, if_neg (nodup_getElem_ne (nodup_univOf D) hi hj (Nat.ne_of_gt h)),
      tied_swap S h01 h34 D]
    rfl

theorem specTable_get (S : Scheme) (D : Dataset) {i j : Nat}
    (hi : i < (univOf D).length) (hj : j < (univOf D).length) :
    (specTable S D).get i j =
      if (univOf D)[i] = (univOf D)[j] then (0, 0, 0)
      else (before S D (univOf D)[i] (univOf D)[j], after S D (univOf D)[i] (univOf D)[j],
            tied S D (univOf D)[i] (univOf D)[j]) := by
  unfold Table.get specTable
  rw [getD_map_of_lt hi, getD_map_of_lt hj]

theorem sel_specTable (S : Scheme) (D : Dataset) (c : Ranking) {i j : Nat}
    (hi : i < (univOf D).length) (hj : j < (univOf D).length) (hij : i ≠ j)
    (hx : (univOf D)[i] ∈ c.flatten) (hy : (univOf D)[j] ∈ c.flatten) :
    sel (specTable S D) (vecOf (univOf D) c) i j =
      isum (D.map fun r => pen S r c (univOf D)[i] (univOf D)[j]) := by
  obtain ⟨a, ha⟩ := exists_bucketIdx_eq_some hx
  obtain ⟨b, hb⟩ := exists_bucketIdx_eq_some hy
  unfold sel Table.bef Table.aft Table.tie vecOf pen
  rw [specTable_get S D hi hj, if_neg (nodup_getElem_ne (nodup_univOf D) hi hj hij),
    getD_map_of_lt hi, getD_map_of_lt hj, bidIn_of_some ha, bidIn_of_some hb]
  simp only [ha, hb, Int.ofNat_lt]
  exact (isum_map_ite3 ..).symm

theorem pen_symm (S : Scheme) (h01 : S.t0 = S.t1) (h34 : S.t3 = S.t4) (r c : Ranking) (x y : Elem) :
    pen S r c x y = pen S r c y x := by
  unfold pen
  cases hx : bucketIdx c x <;> cases hy : bucketIdx c y
  · rfl
  · rfl
  · rfl
  · rename_i i j
    rcases Nat.lt_trichotomy i j with h | h | h
    · simp [h, Nat.lt_asymm h]
    · subst h
      simp [T_status_swap S h01 h34 r x y]
    · simp [h, Nat.lt_asymm h]

end Corankco
