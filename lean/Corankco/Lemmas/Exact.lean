import Corankco.Lemmas.C02
import Corankco.Lemmas.L4
import Corankco.Lemmas.SortGroup
import Corankco.Model.Exact
import Corankco.Spec.Partition
import Corankco.Spec.Bio
/-
  The 0/1 program of the exact algorithms as a model of rank aggregation with ties.  `Feas a n` is feasibility for the
  binary and transitivity rows as a proposition (`feasible_iff`); `feasible_append` splits off extra rows, which hold at
  an encoding by `pulpPrune_asgOfVec`.  An encoding `asgOfVec v` is feasible, a feasible point agrees with the encoding
  of its defeat counts (`Feas.eq_asgOfVec_cvec`), and there the objective is `scoreVec` (`evalLin_objective_eq`).  The
  decoder's fold is `groupAdj` on a sorted list that starts with count 0 (`fold_sorted`, `Feas.exists_zero`), so it
  orders the ids by count (`decodeCounts_orders`, `ordersBy_range`).
-/
namespace Corankco
open Model Spec
namespace Exact

theorem evalLin_append (a : Asg) (l₁ l₂ : List (Var × Int)) :
    evalLin a (l₁ ++ l₂) = evalLin a l₁ + evalLin a l₂ := by
  simp [evalLin, isum_append]

theorem forall_ltPairs (n : Nat) (P : Nat × Nat → Prop) :
    (∀ p ∈ ltPairs n, P p) ↔ ∀ i j, i < j → j < n → P (i, j) := by
  refine (pairwise_iff_pairs (R := fun a b => P (a, b))).symm.trans (List.pairwise_iff_getElem.trans ?_)
  simp only [List.length_range, List.getElem_range]
  exact ⟨fun h i j hij hj => h i j (Nat.lt_trans hij hj) hj hij, fun h i j _ hj hij => h i j hij hj⟩

/-! ### feasibility, propositionally -/

structure Feas (a : Asg) (n : Nat) : Prop where
  xbin : ∀ i < n, ∀ j < n, i ≠ j → a (.x i j) = 0 ∨ a (.x i j) = 1
  tbin : ∀ i j, i < j → j < n → a (.t i j) = 0 ∨ a (.t i j) = 1
  one : ∀ i j, i < j → j < n → a (.x i j) + a (.x j i) + a (.t i j) = 1
  tr : ∀ i < n, ∀ j < n, j ≠ i → ∀ k < n, k ≠ i → k ≠ j →
    a (.x i j) + a (.x j k) + a (tvar j k) - a (.x i k) ≤ 1 ∧
    a (.x i j) + a (tvar i j) + a (.x j k) - a (.x i k) ≤ 1 ∧
    2 * a (tvar i j) + 2 * a (tvar j k) - a (tvar i k) ≤ 3

theorem satisfies_le (a : Asg) (l : List (Var × Int)) (r : Int) :
    (satisfies a ⟨l, .le, r⟩ = true) = (evalLin a l ≤ r) := by
  simp [satisfies]

theorem satisfies_eq (a : Asg) (l : List (Var × Int)) (r : Int) :
    (satisfies a ⟨l, .eq, r⟩ = true) = (evalLin a l = r) := by
  simp [satisfies]

theorem evalLin_nil (a : Asg) : evalLin a [] = 0 := rfl

theorem evalLin_cons (a : Asg) (x : Var) (c : Int) (l : List (Var × Int)) :
    evalLin a ((x, c) :: l) = c * a x + evalLin a l := rfl

theorem feasible_iff (a : Asg) (n : Nat) :
    feasible a n (binaryRows n ++ transRows n) = true ↔ Feas a n := by
  -- the lists become quantifiers, the guards `if … then []` hypotheses, and the last six lemmas turn
  -- `1 * a + (b + (-1 * c + 0))` into `a + b - c`
  simp only [feasible, isBinary, binaryRows, transRows, Bool.and_eq_true, List.all_append, List.all_map,
    List.all_flatMap, apply_ite (fun l => List.all l (satisfies a)), List.all_nil, List.all_cons, List.all_eq_true,
    forall_ltPairs, List.mem_range, Function.comp_def, Bool.ite_eq_true_distrib, if_true_left, not_or, and_imp,
    Bool.or_eq_true, or_assoc, beq_iff_eq, Bool.and_true, satisfies_le, satisfies_eq, evalLin_cons, evalLin_nil,
    Int.one_mul, Int.add_zero, ← Int.add_assoc, Int.neg_mul, ← Int.sub_eq_add_neg, ← Int.add_sub_assoc]
  exact ⟨fun h => ⟨fun i hi j hj hne => (h.1.1 i hi j hj).resolve_left hne, h.1.2, h.2.1, h.2.2⟩,
    fun h => ⟨⟨fun i hi j hj => Decidable.or_iff_not_imp_left.mpr (h.xbin i hi j hj), h.tbin⟩, h.one, h.tr⟩⟩

theorem asgOfVec_tvar (v : List Int) (i j : Nat) :
    asgOfVec v (tvar i j) = if v.getD i 0 = v.getD j 0 then 1 else 0 := by
  unfold tvar
  split
  · rfl
  · simp only [asgOfVec, eq_comm]

theorem feas_asgOfVec (v : List Int) (n : Nat) : Feas (asgOfVec v) n := by
  refine ⟨?_, ?_, ?_, ?_⟩
  · intro i _ j _ _
    simp only [asgOfVec]
    omega
  · intro i j _ _
    simp only [asgOfVec]
    omega
  · intro i j _ _
    simp only [asgOfVec]
    omega
  · intro i _ j _ _ k _ _ _
    simp only [asgOfVec_tvar]
    simp only [asgOfVec]
    omega

/-! ### the objective -/

theorem sel_eq_asg (t : Table) (v : List Int) (i j : Nat) :
    sel t v i j =
      t.bef i j * asgOfVec v (.x i j) + t.aft i j * asgOfVec v (.x j i) + t.tie i j * asgOfVec v (.t i j) := by
  simp only [asgOfVec, sel]
  rcases Int.lt_trichotomy (v.getD i 0) (v.getD j 0) with h | h | h
  · simp only [if_pos h, if_neg (Int.lt_asymm h), if_neg (Int.ne_of_lt h), Int.mul_one, Int.mul_zero, Int.add_zero]
  · simp only [h, Int.lt_irrefl, if_false, if_true, Int.mul_one, Int.mul_zero, Int.zero_add]
  · simp only [if_pos h, if_neg (Int.lt_asymm h), if_neg (Int.ne_of_gt h), Int.mul_one, Int.mul_zero, Int.add_zero,
      Int.zero_add]

theorem evalLin_objective_eq (t : Table) (n : Nat) (hm : MirrorT t n) (a : Asg) (v : List Int) (hv : v.length = n)
    (h : ∀ i j, i < n → j < n → i ≠ j →
      a (.x i j) = asgOfVec v (.x i j) ∧ a (tvar i j) = asgOfVec v (tvar i j)) :
    evalLin a (objective t n) = scoreVec t v := by
  unfold objective scoreVec
  rw [evalLin_append, evalLin, isum_flatMap]
  simp only [isum_flatMap]
  -- the `x` part, a double sum over `i ≠ j`, is a sum over the pairs `i < j` of the terms of `(i, j)` and `(j, i)`; it
  -- joins the `t` part, and the three terms of a pair are its `sel` (`sel_eq_asg`)
  rw [isum_square]
  simp only [if_pos, List.map_nil, isum_nil, isum_map_zero, Int.zero_add, evalLin, ltPairs, List.map_map,
    ← isum_map_add, hv]
  apply isum_map_congr
  intro p hp
  obtain ⟨h1, h2⟩ := mem_pairs_range p hp
  have h3 := Nat.lt_trans h1 h2
  have e := h p.1 p.2 h3 h2 (Nat.ne_of_lt h1)
  rw [tvar, if_pos h1] at e
  rw [if_neg (Nat.ne_of_lt h1), if_neg (Nat.ne_of_gt h1), sel_eq_asg, ← e.1, ← e.2,
    ← (h p.2 p.1 h2 h3 (Nat.ne_of_gt h1)).1, ← (hm p.2 p.1 h2 h3).1]
  simp only [List.map_cons, List.map_nil, isum_cons, isum_nil, Function.comp_def, Int.add_zero]

/-! ### defeat counts of a feasible point -/

def cnt (a : Asg) (n j : Nat) : Nat := ((List.range n).filter fun i => i != j && a (.x i j) == 1).length

theorem defeatCounts_length (a : Asg) (n : Nat) : (defeatCounts a n).length = n := by
  simp [defeatCounts]

theorem defeatCounts_getD (a : Asg) (n j : Nat) (h : j < n) : (defeatCounts a n).getD j 0 = cnt a n j := by
  unfold defeatCounts cnt
  exact getD_range_map h

namespace Feas
variable {a : Asg} {n : Nat} (hF : Feas a n)
include hF

theorem pair (i j : Nat) (hi : i < n) (hj : j < n) (hne : i ≠ j) :
    (a (tvar i j) = 0 ∨ a (tvar i j) = 1) ∧ a (.x i j) + a (.x j i) + a (tvar i j) = 1 := by
  rcases Nat.lt_or_gt_of_ne hne with h | h
  · rw [tvar, if_pos h]
    exact ⟨hF.tbin i j h hj, hF.one i j h hj⟩
  · rw [tvar, if_neg (Nat.lt_asymm h), Int.add_comm (a (.x i j))]
    exact ⟨hF.tbin j i h hi, hF.one j i h hi⟩

theorem before_of_le (i j k : Nat) (hi : i < n) (hj : j < n) (hk : k < n) (hij : i ≠ j) (h : a (.x j i) = 0)
    (hki : (k != i && a (.x k i) == 1) = true) : (k != j && a (.x k j) == 1) = true := by
  simp only [Bool.and_eq_true, bne_iff_ne, ne_eq, beq_iff_eq] at hki ⊢
  have hkj : k ≠ j := fun e => by
    rw [e, h] at hki
    cases hki.2
  refine ⟨hkj, ?_⟩
  have h1 := (hF.pair i j hi hj hij).2
  have t := (hF.tr k hk i hi (Ne.symm hki.1) j hj (Ne.symm hkj) (Ne.symm hij)).1
  have b := hF.xbin k hk j hj hkj
  omega

theorem cnt_le (i j : Nat) (hi : i < n) (hj : j < n) (hij : i ≠ j) (h : a (.x j i) = 0) : cnt a n i ≤ cnt a n j := by
  unfold cnt
  rw [← List.countP_eq_length_filter, ← List.countP_eq_length_filter]
  exact List.countP_mono_left fun k hk => hF.before_of_le i j k hi hj (List.mem_range.mp hk) hij h

theorem cnt_lt (i j : Nat) (hi : i < n) (hj : j < n) (hij : i ≠ j) (h : a (.x i j) = 1) : cnt a n i < cnt a n j := by
  have h' : a (.x j i) = 0 := (hF.xbin j hj i hi (Ne.symm hij)).resolve_right fun b => by
    have := hF.pair i j hi hj hij
    omega
  exact filter_length_lt (fun k hk => hF.before_of_le i j k hi hj (List.mem_range.mp hk) hij h')
    (List.mem_range.mpr hi) (by simp [hij, h]) (by simp)

end Feas

def cvec (a : Asg) (n : Nat) : List Int := (defeatCounts a n).map fun k => Int.ofNat k

theorem cvec_length (a : Asg) (n : Nat) : (cvec a n).length = n := by
  simp [cvec, defeatCounts_length]

theorem cvec_getD (a : Asg) (n j : Nat) (h : j < n) : (cvec a n).getD j 0 = (cnt a n j : Int) := by
  rw [cvec, getD_map_ofNat, defeatCounts_getD a n j h]
  rfl

theorem Feas.x_eq {a : Asg} {n : Nat} (hF : Feas a n) (i j : Nat) (hi : i < n) (hj : j < n) (hij : i ≠ j) :
    a (.x i j) = asgOfVec (cvec a n) (.x i j) := by
  simp only [asgOfVec, cvec_getD a n i hi, cvec_getD a n j hj, Int.ofNat_lt]
  rcases hF.xbin i hi j hj hij with b | b
  · rw [b, if_neg (Nat.not_lt.mpr (hF.cnt_le j i hj hi (Ne.symm hij) b))]
  · rw [b, if_pos (hF.cnt_lt i j hi hj hij b)]

theorem Feas.eq_asgOfVec_cvec {a : Asg} {n : Nat} (hF : Feas a n) (i j : Nat) (hi : i < n) (hj : j < n)
    (hij : i ≠ j) :
    a (.x i j) = asgOfVec (cvec a n) (.x i j) ∧ a (tvar i j) = asgOfVec (cvec a n) (tvar i j) := by
  have e1 := hF.x_eq i j hi hj hij
  -- the tie variables agree because on both sides the three variables of the pair add up to 1
  have p := (hF.pair i j hi hj hij).2
  have q := ((feas_asgOfVec (cvec a n) n).pair i j hi hj hij).2
  rw [e1, hF.x_eq j i hj hi (Ne.symm hij)] at p
  exact ⟨e1, Int.add_left_cancel (p.trans q.symm)⟩

theorem Feas.objective_eq {a : Asg} {n : Nat} (hF : Feas a n) (t : Table) (hm : MirrorT t n) :
    evalLin a (objective t n) = scoreVec t (cvec a n) :=
  evalLin_objective_eq t n hm a _ (cvec_length a n) hF.eq_asgOfVec_cvec

theorem Feas.exists_zero {a : Asg} {n : Nat} (hF : Feas a n) (j : Nat) (hj : j < n) : ∃ i, i < n ∧ cnt a n i = 0 := by
  induction h : cnt a n j using Nat.strongRecOn generalizing j with
  | _ c ih =>
    cases c with
    | zero => exact ⟨j, hj, h⟩
    | succ c =>
      obtain ⟨k, hk⟩ := List.exists_mem_of_length_pos (Nat.lt_of_lt_of_eq c.succ_pos h.symm)
      simp only [List.mem_filter, List.mem_range, Bool.and_eq_true, bne_iff_ne, ne_eq, beq_iff_eq] at hk
      exact ih _ (h ▸ hF.cnt_lt k j hk.1 hj hk.2.1 hk.2.2) k hk.1 rfl

/-! ### the decoder -/

/-- the state of the decoder's fold: the finished buckets, the bucket being filled, its count -/
abbrev DecodeSt := List (List Nat) × List Nat × Nat

def decodeStep (st : DecodeSt) (e : Nat × Nat) : DecodeSt :=
  if e.2 = st.2.2 then (st.1, st.2.1 ++ [e.1], st.2.2) else (st.1 ++ [st.2.1], [e.1], e.2)

def decodeOut (st : DecodeSt) : List (List Nat) := st.1 ++ [st.2.1]

theorem decodeCounts_eq (counts : List Nat) :
    decodeCounts counts =
      decodeOut ((sortBy (fun a b => decide (a.2 ≤ b.2)) ((List.range counts.length).zip counts)).foldl decodeStep
        ([], [], 0)) :=
  rfl

theorem fold_eq (l : List (Nat × Nat)) (done : List (List Nat)) (p : Nat × Nat) (ps : List (Nat × Nat))
    (hc : ∀ x ∈ ps, x.2 = p.2) :
    decodeOut (l.foldl decodeStep (done, (p :: ps).map (·.1), p.2)) =
      done ++ (groupAdj (fun a b => a.2 == b.2) (p :: ps ++ l)).map (List.map (·.1)) := by
  induction l generalizing done p ps with
  | nil =>
    rw [SortGroup.groupAdj_run (·.2) p ps [] hc (by simp)]
    rfl
  | cons e l ih =>
    rw [List.foldl_cons]
    by_cases h : e.2 = p.2
    · rw [show decodeStep (done, (p :: ps).map (·.1), p.2) e = (done, (p :: (ps ++ [e])).map (·.1), p.2) by
          simp [decodeStep, h],
        ih done p (ps ++ [e]) (List.forall_mem_append.mpr ⟨hc, List.forall_mem_singleton.mpr h⟩)]
      simp
    · rw [show decodeStep (done, (p :: ps).map (·.1), p.2) e = (done ++ [(p :: ps).map (·.1)], [e].map (·.1), e.2) by
          simp [decodeStep, h],
        ih _ e [] (by simp), SortGroup.groupAdj_run (·.2) p ps (e :: l) hc (by simpa using h)]
      simp

theorem count_le_preorder : SortGroup.TotalPreorderOn (fun _ => True) fun a b : Nat × Nat => decide (a.2 ≤ b.2) where
  tot a b _ _ := by
    simp only [decide_eq_true_eq]
    exact Nat.le_total a.2 b.2
  tr a b c _ _ _ := by
    simp only [decide_eq_true_eq]
    exact Nat.le_trans

theorem fold_sorted (s : List (Nat × Nat)) (hs : s.Pairwise fun x y => decide (x.2 ≤ y.2) = true) (e : Nat × Nat)
    (he : e ∈ s) (hz : e.2 = 0) :
    decodeOut (s.foldl decodeStep ([], [], 0)) = (groupAdj (fun a b => a.2 == b.2) s).map (List.map (·.1)) := by
  cases s with
  | nil => cases he
  | cons e0 rest =>
    have he0 : e0.2 = 0 := by
      rcases List.mem_cons.mp he with rfl | h
      · exact hz
      · exact Nat.le_zero.mp (hz ▸ of_decide_eq_true (List.rel_of_pairwise_cons hs h))
    rw [List.foldl_cons, show decodeStep ([], [], 0) e0 = ([], [e0].map (·.1), e0.2) by simp [decodeStep, he0],
      fold_eq rest [] e0 [] (by simp)]
    rfl

/-- Some id must have count 0: else the decoder's output starts with an empty bucket. -/
theorem decodeCounts_orders (counts : List Nat) (i0 : Nat) (h0 : i0 < counts.length) (hz : counts.getD i0 0 = 0) :
    ordersBy (List.range counts.length) (fun i j => decide (counts.getD i 0 ≤ counts.getD j 0))
      (decodeCounts counts) = true := by
  rw [decodeCounts_eq, zip_range_self counts 0,
    fold_sorted _ (SortGroup.sortBy_sorted count_le_preorder _ fun _ _ => trivial)
    (i0, counts.getD i0 0) (SortGroup.mem_sortBy.mpr (List.mem_map.mpr ⟨i0, List.mem_range.mpr h0, rfl⟩)) hz]
  refine SortGroup.ordersBy_sortGroup count_le_preorder ?_ List.nodup_range (fun _ => .rfl) (fun _ _ => trivial)
    fun _ _ _ _ => rfl
  intro a b _ _
  rw [Bool.eq_iff_iff]
  simp only [beq_iff_eq, Bool.and_eq_true, decide_eq_true_eq]
  exact Nat.le_antisymm_iff

theorem vecOfIds_getD (n : Nat) (gs : List (List Nat)) (i : Nat) (h : i < n) :
    (vecOfIds n gs).getD i 0 = bIdx gs i := by
  rw [vecOfIds, getD_range_map h, toNat_bidIn]

theorem ordersBy_range {n : Nat} {k : Nat → Nat} {gs : List (List Nat)}
    (h : ordersBy (List.range n) (fun i j => decide (k i ≤ k j)) gs = true) :
    isPartitionOf n gs = true ∧ ∀ i j, i < n → j < n →
      compare ((vecOfIds n gs).getD i 0) ((vecOfIds n gs).getD j 0) = compare (k i) (k j) := by
  refine ⟨?_, fun i j hi hj => ?_⟩
  · rw [L4.isPartitionOf_eq]
    exact SortGroup.wellFormed_of_ordersBy h
  · have := SortGroup.cmpIn_of_ordersBy h (List.mem_range.mpr hi) (List.mem_range.mpr hj)
    simp only [decide_eq_true_eq, ← Nat.compare_eq_ite_le] at this
    rw [vecOfIds_getD n gs i hi, vecOfIds_getD n gs j hj, ← this]
    rfl

theorem pulpPrune_asgOfVec (comps : List (List Nat)) (v : List Int) (hr : RespectsI comps v) :
    (pulpPruneRows comps).all (satisfies (asgOfVec v)) = true := by
  simp only [pulpPruneRows, List.all_flatMap, List.all_cons, List.all_nil, List.all_eq_true]
  intro p hp ei hei ej hej
  have := hr p hp ei hei ej hej
  simp only [Bool.and_eq_true, Bool.and_true, apply_ite (satisfies (asgOfVec v)), Bool.ite_eq_true_distrib,
    satisfies_eq, evalLin_cons, evalLin_nil, asgOfVec, if_pos this, if_neg (Int.lt_asymm this),
    if_neg (Int.ne_of_lt this), ite_self]
  decide

theorem feasible_append (a : Asg) (n : Nat) (r₁ r₂ : List Row) :
    feasible a n (r₁ ++ r₂) = true ↔ feasible a n r₁ = true ∧ r₂.all (satisfies a) = true := by
  simp only [feasible, List.all_append, Bool.and_eq_true, and_assoc]

end Exact
end Corankco
