import Corankco.Model.Basic
import Corankco.Model.Pairwise
import Corankco.Spec.Kemeny
import Corankco.Spec.C02
import Corankco.Proto
import Corankco.Driver.C02
import Corankco.Props.C02
import Corankco.Props.C02b
import Corankco.Model.Kemeny
import Corankco.Spec.C01
import Corankco.Driver.C01
import Corankco.Model.Scheme
import Corankco.Spec.C19
import Corankco.Driver.C19
import Corankco.Lemmas.List
import Corankco.Lemmas.Basic
import Corankco.Lemmas.C02
import Corankco.Model.Markov
import Corankco.Spec.C20
import Corankco.Driver.C20
import Corankco.Lemmas.C19
import Corankco.Props.C19
import Corankco.Model.Algos
import Corankco.Spec.Algos
import Corankco.Driver.Algos
import Corankco.Lemmas.C01Cross
import Corankco.Lemmas.C01Merge
import Corankco.Lemmas.C01Prefix
import Corankco.Lemmas.C01Defs
import Corankco.Lemmas.C01Counts
import Corankco.Lemmas.C01Cost
import Corankco.Lemmas.C01Score
import Corankco.Props.C01
import Corankco.Lemmas.C20
import Corankco.Props.C20
import Corankco.Model.BioConsert
import Corankco.Spec.Bio
import Corankco.Driver.Bio
import Corankco.Lemmas.C10
import Corankco.Props.C10
import Corankco.Model.Partition
import Corankco.Spec.Partition
import Corankco.Driver.Partition
import Corankco.Lemmas.C11
import Corankco.Props.C11
import Corankco.Lemmas.SortGroup
import Corankco.Lemmas.Dataset
import Corankco.Lemmas.Status
import Corankco.Lemmas.C13
import Corankco.Lemmas.C12
import Corankco.Props.C13
import Corankco.Props.C12
import Corankco.Lemmas.Dense
import Corankco.Lemmas.BioArr
import Corankco.Lemmas.BioDelta
import Corankco.Lemmas.BioSearch
import Corankco.Lemmas.Sel
import Corankco.Lemmas.BioMove
import Corankco.Model.Exact
import Corankco.Driver.Exact
import Corankco.Lemmas.Rows
import Corankco.Lemmas.BioSweep
import Corankco.Props.C08
import Corankco.Props.C09
import Corankco.Lemmas.L4
import Corankco.Props.C06
import Corankco.Props.C07
import Corankco.Lemmas.PartLoop
import Corankco.Lemmas.PartSum
import Corankco.Lemmas.Exact
import Corankco.Props.C05
import Corankco.Lemmas.WeakOrders
import Corankco.Model.Applicability
import Corankco.Driver.C14
import Corankco.Props.C04
import Corankco.Lemmas.Compose
import Corankco.Model.DatasetOps
import Corankco.Spec.C16
import Corankco.Driver.C16
import Corankco.Lemmas.C14
import Corankco.Props.C14
import Corankco.Props.C03
import Corankco.Model.Parse
import Corankco.Driver.C18
import Corankco.Lemmas.C17
import Corankco.Props.C17
import Corankco.Model.History
import Corankco.Props.C15
import Corankco.Driver.C15
import Corankco.Lemmas.C16
import Corankco.Props.C16
import Corankco.Lemmas.PyStr
import Corankco.Lemmas.C18Total
import Corankco.Props.C18
import Corankco.Lemmas.C18Round
import Corankco.Lemmas.SubTable
import Corankco.Props.C06f
import Corankco.Lemmas.Invariance
import Corankco.Props.C01b
import Corankco.Props.C08b
import Corankco.Props.C09b
import Corankco.Props.C05d
