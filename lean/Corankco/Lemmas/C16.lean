import Corankco.Spec.C16
import Corankco.Lemmas.C17
import Corankco.Lemmas.List
/-
  C16 — a successful `analyse rs` is `mkDS (rebuilt rs)` with duplicate-free rankings (`analyse_ok`), and `inv_mkDS`
  proves `C16.inv` on that closed form: the only place where the invariant is unfolded, since the constructor, the
  three mutators, unification and projection all end in `analyse`.  Rebuilding a homogeneous list of rankings changes
  nothing up to `normName` and the order inside buckets (`rebuilt_same`): that is the projection statement.
  `DOp` / `applyDOp`: the three mutators, for operation sequences.
-/
namespace Corankco
namespace C16L
open Model Spec

theorem mem_dedupN {x : Name} : ∀ {l : List Name}, x ∈ dedupN l ↔ x ∈ l
  | [] => by simp [dedupN]
  | y :: ys => by
    simp only [dedupN, List.mem_cons, List.mem_filter, mem_dedupN (l := ys)]
    by_cases h : x = y <;> simp [h]

theorem dedupN_nodup : ∀ l : List Name, (dedupN l).Nodup
  | [] => by simp [dedupN]
  | y :: ys => by
    simp only [dedupN, List.nodup_cons, List.mem_filter]
    exact ⟨by simp, (dedupN_nodup ys).filter _⟩

theorem dedupN_sublist : ∀ l : List Name, (dedupN l).Sublist l
  | [] => .slnil
  | y :: ys => (List.filter_sublist.trans (dedupN_sublist ys)).cons_cons y

theorem nodup_of_dedupN_length {l : List Name} (h : (dedupN l).length = l.length) : l.Nodup :=
  (dedupN_sublist l).eq_of_length h ▸ dedupN_nodup l

theorem dedupN_of_nodup {l : List Name} (h : l.Nodup) : dedupN l = l := by
  induction l with
  | nil => rfl
  | cons x xs ih =>
    rw [List.nodup_cons] at h
    rw [dedupN, ih h.2, List.filter_eq_self.2]
    intro a ha
    simp only [ne_eq, decide_not, Bool.not_eq_eq_eq_not, Bool.not_true, decide_eq_false_iff_not]
    rintro rfl; exact h.1 ha

theorem mkRanking_ok {bs : List NBucket} {r : NRanking} (h : mkRanking bs = .ok r) :
    r = bs.map dedupN ∧ r.flatten.Nodup := by
  unfold mkRanking at h
  simp only at h
  split at h
  · rename_i hl
    injection h with h; subst h
    exact ⟨rfl, nodup_of_dedupN_length hl.symm⟩
  · cases h

theorem mkRanking_of_nodup {r : NRanking} (h : r.flatten.Nodup) : mkRanking r = .ok r := by
  have hmap : r.map dedupN = r := map_eq_self fun b hb => dedupN_of_nodup (nodup_of_mem_flatten h hb)
  unfold mkRanking
  simp only [hmap, dedupN_of_nodup h, if_true]

theorem sameSetN_iff (a b : List Name) : sameSetN a b = true ↔ ∀ x, x ∈ a ↔ x ∈ b := C17.sameBucket_iff a b

theorem rviewOK_viewOf {r : NRanking} (h : r.flatten.Nodup) : rviewOK (viewOf r) = true := by
  simp [rviewOK, viewOf, samePairs, sameSetN_iff, h]

def rebuiltWith (c : Name → Name) (r : NRanking) : NRanking := (r.map fun b => b.map c).map dedupN

def allIntOf (rs : List NRanking) : Bool := rs.all fun r => r.all fun b => b.all Name.canBeInt
def convOf (rs : List NRanking) : Name → Name := if allIntOf rs then Name.toIntName else Name.toStrName
def rebuilt (rs : List NRanking) : List NRanking := rs.map (rebuiltWith (convOf rs))
def mkDS (rs' : List NRanking) : DS :=
  let univ := dedupN (rs'.flatten.flatten)
  let ids := List.range univ.length
  { rankings := rs', elemId := univ.zip ids, idElem := ids.zip univ,
    complete := univ.all fun x => countOcc rs' x == rs'.length,
    withoutTies := rs'.all fun r => r.all fun b => b.length ≤ 1 }

theorem analyse_ok {rs : List NRanking} {d : DS} (h : analyse rs = .ok d) :
    d = mkDS (rebuilt rs) ∧ ∀ r' ∈ rebuilt rs, r'.flatten.Nodup := by
  unfold analyse at h
  split at h
  · cases h
  · simp only at h
    split at h
    · cases h
    · rename_i rs' hb
      obtain ⟨rfl, nd⟩ := eq_map_of_mapM_ok (g := rebuiltWith (convOf rs)) mkRanking_ok hb
      split at h
      · cases h
      · injection h with h
        exact ⟨h.symm, nd⟩

theorem countOcc_eq (rs : List NRanking) (x : Name) :
    (countOcc rs x == rs.length) = rs.all (fun r => r.flatten.contains x) := by
  unfold countOcc
  rw [Bool.eq_iff_iff]
  simp only [beq_iff_eq, List.length_filter_eq_length_iff, List.all_eq_true]

theorem mkDS_universe (R : List NRanking) : (mkDS R).universe = dedupN R.flatten.flatten := by
  simp [DS.universe, mkDS, List.map_fst_zip]

theorem mem_universe {R : List NRanking} {x : Name} : x ∈ (mkDS R).universe ↔ x ∈ R.flatten.flatten := by
  rw [mkDS_universe, mem_dedupN]

theorem viewOf_buckets (R : List NRanking) : (R.map viewOf).map (·.buckets) = R := by
  simp [List.map_map, Function.comp_def, viewOf]

theorem all_dedupN (p : Name → Bool) (l : List Name) : (dedupN l).all p = l.all p := by
  rw [Bool.eq_iff_iff]
  simp only [List.all_eq_true, mem_dedupN]

/-- `hint`, `hcan`: the names are all `int` (`allInt = true`), or all `str` with one that is not integer-like -/
theorem inv_mkDS {R : List NRanking} (hnd : ∀ r ∈ R, r.flatten.Nodup) {allInt : Bool}
    (hint : ∀ x ∈ R.flatten.flatten, isIntName x = allInt)
    (hcan : R.flatten.flatten.all Name.canBeInt = allInt) :
    C16.inv (snapOf (mkDS R)) = true := by
  unfold C16.inv snapOf
  simp only [viewOf_buckets, mkDS_universe, posMatrix, bidMatrix]
  -- with the id maps projected (`map_fst_zip`, `map_snd_zip`) eleven of the sixteen conjuncts are reflexive; left are
  -- the views, the two id maps being converse, the homogeneity of the names, the matrices
  simp only [mkDS, List.map_fst_zip, List.map_snd_zip, List.length_zip, List.length_range, Nat.min_self, Nat.le_refl,
    beq_self_eq_true, Bool.and_true, Bool.and_eq_true, sameSetN_iff, mem_dedupN, iff_self, implies_true, dedupN_nodup,
    decide_true, countOcc_eq, and_true, all_dedupN, hcan, List.all_eq_true, List.contains_iff_mem, imp_self,
    Bool.ite_eq_true_distrib, List.forall_mem_map, List.mem_range]
  refine ⟨⟨⟨⟨fun r hr => rviewOK_viewOf (hnd r hr), fun _ hp => mem_zip_swap hp⟩, fun _ hp => mem_zip_swap hp⟩, ?_⟩, ?_⟩
  · cases allInt
    · exact fun x hx => by rw [hint x hx]; rfl
    · exact hint
  · intro i hi
    rw [lookup_zip_range hi]
    simp only [getD_map_of_lt hi, Bool.and_eq_true, beq_iff_eq]
    exact ⟨rfl, rfl⟩

theorem mem_rebuiltWith_flatten {c : Name → Name} {r : NRanking} {x : Name} :
    x ∈ (rebuiltWith c r).flatten ↔ x ∈ r.flatten.map c := by
  simp only [rebuiltWith, List.map_map, List.map_flatten, ← List.flatMap_def, List.mem_flatMap, Function.comp_apply,
    mem_dedupN]

theorem mem_rebuilt_names {c : Name → Name} {R : List NRanking} {x : Name} :
    x ∈ (R.map (rebuiltWith c)).flatten.flatten ↔ x ∈ R.flatten.flatten.map c := by
  rw [List.flatten_flatten, List.flatten_flatten, List.map_flatten, List.map_map, List.map_map]
  simp only [← List.flatMap_def, List.mem_flatMap, Function.comp_apply, mem_rebuiltWith_flatten]

theorem allIntOf_eq (rs : List NRanking) : allIntOf rs = rs.flatten.flatten.all Name.canBeInt := by
  simp [allIntOf, List.all_flatten]

theorem toIntName_isInt (y : Name) : isIntName y.toIntName = true := by cases y <;> rfl
theorem toStrName_notInt (y : Name) : isIntName y.toStrName = false := by cases y <;> rfl
theorem toIntName_of_isInt {y : Name} (h : isIntName y = true) : y.toIntName = y := by
  cases y <;> simp_all [isIntName, Name.toIntName]
theorem toStrName_of_notInt {y : Name} (h : isIntName y = false) : y.toStrName = y := by
  cases y <;> simp_all [isIntName, Name.toStrName]
theorem canBeInt_of_isInt {y : Name} (h : isIntName y = true) : y.canBeInt = true := by
  cases y <;> simp_all [isIntName, Name.canBeInt]

theorem isIntName_rebuilt (rs : List NRanking) : ∀ x ∈ (rebuilt rs).flatten.flatten, isIntName x = allIntOf rs := by
  intro x hx
  obtain ⟨y, _, rfl⟩ := List.mem_map.1 (mem_rebuilt_names.1 hx)
  unfold convOf
  cases allIntOf rs
  · exact toStrName_notInt y
  · exact toIntName_isInt y

theorem canBeInt_rebuilt (rs : List NRanking) : (rebuilt rs).flatten.flatten.all Name.canBeInt = allIntOf rs := by
  cases hA : allIntOf rs
  · -- a name that is not integer-like is a string, and stays as it is
    obtain ⟨y, hy, hny⟩ := List.all_eq_false.1 (allIntOf_eq rs ▸ hA)
    refine List.all_eq_false.2 ⟨y, mem_rebuilt_names.2 (List.mem_map.2 ⟨y, hy, ?_⟩), hny⟩
    rw [convOf, hA]
    cases y with
    | int _ => exact absurd rfl hny
    | str _ => rfl
  · exact List.all_eq_true.2 fun x hx => canBeInt_of_isInt (hA ▸ isIntName_rebuilt rs x hx)

def unifyRankingN (U : List Name) (r : NRanking) : NRanking :=
  let missing := U.filter fun x => !(r.flatten.contains x)
  if missing.isEmpty then r else r ++ [missing]

theorem unifiedRankingsN_eq (d : DS) : unifiedRankingsN d = d.rankings.map (unifyRankingN d.universe) := rfl

theorem unifyRankingN_flatten (U : List Name) (r : NRanking) :
    (unifyRankingN U r).flatten = r.flatten ++ U.filter fun x => !(r.flatten.contains x) := by
  simp only [unifyRankingN]
  split
  · next h => rw [List.isEmpty_iff.1 h, List.append_nil]
  · exact List.flatten_concat

theorem mem_unifyRankingN_flatten {U : List Name} {r : NRanking} (hsub : ∀ x ∈ r.flatten, x ∈ U) (x : Name) :
    x ∈ (unifyRankingN U r).flatten ↔ x ∈ U := by
  rw [unifyRankingN_flatten, List.mem_append, List.mem_filter]
  by_cases hr : x ∈ r.flatten <;> simp [hr, hsub x]

theorem nodup_unifyRankingN {U : List Name} {r : NRanking} (hU : U.Nodup) (hr : r.flatten.Nodup) :
    (unifyRankingN U r).flatten.Nodup := by
  rw [unifyRankingN_flatten, List.nodup_append]
  refine ⟨hr, hU.filter _, ?_⟩
  rintro a ha _ hb rfl
  rw [List.mem_filter] at hb
  simp [ha] at hb

theorem unifiedOK_unifyRankingN {U : List Name} {R : List NRanking} (hU : U.Nodup)
    (hnd : ∀ r ∈ R, r.flatten.Nodup) :
    unifiedOK U R ((R.map (unifyRankingN U)).map viewOf) = true := by
  unfold unifiedOK
  simp only [List.map_map, ← List.map_prod_left_eq_zip, List.length_map, beq_self_eq_true, Bool.true_and,
    Bool.and_eq_true, List.all_eq_true, List.forall_mem_map]
  refine ⟨fun r hr => rviewOK_viewOf (nodup_unifyRankingN hU (hnd r hr)), fun r _ => ?_⟩
  simp only [Function.comp, viewOf]
  unfold unifyRankingN
  simp only
  split
  · exact C17.sameRankingN_refl r
  · simp [C17.sameRankingN_refl, C17.sameBucket_refl, List.getD_eq_getElem?_getD]

theorem complete_of_same_elems {V : List NRanking} {U : List Name}
    (hV : ∀ v ∈ V, ∀ x, x ∈ v.flatten ↔ x ∈ U) : (mkDS (rebuilt V)).complete = true := by
  simp only [mkDS, rebuilt, all_dedupN, List.all_eq_true, countOcc_eq, List.contains_iff_mem, mem_rebuilt_names,
    List.forall_mem_map, mem_rebuiltWith_flatten]
  intro y hy v hv
  obtain ⟨v0, hv0, hy⟩ := mem_flatten_flatten.1 hy
  exact List.mem_map_of_mem ((hV v hv y).2 ((hV v0 hv0 y).1 hy))

def projR (p : Name → Bool) (R : List NRanking) : List NRanking :=
  (R.map fun r => (r.map fun b => b.filter p).filter fun b => !b.isEmpty).filter fun r => !r.isEmpty

theorem subProblemN_eq (d : DS) (keep : List Name) :
    subProblemN d keep = analyse (projR (fun x => keep.contains x) d.rankings) := rfl

theorem projR_names (p : Name → Bool) (R : List NRanking) :
    (projR p R).flatten.flatten = R.flatten.flatten.filter p := by
  simp only [projR, List.flatten_filter_not_isEmpty, List.flatten_flatten, List.map_map, Function.comp_def,
    List.filter_flatten]

theorem normName_of_isInt {x : Name} (h : isIntName x = true) : normName x = x := by
  simp [normName, canBeInt_of_isInt h, toIntName_of_isInt h]

theorem normName_conv {P : List NRanking} {allInt : Bool} (hom : ∀ x ∈ P.flatten.flatten, isIntName x = allInt)
    {y : Name} (hy : y ∈ P.flatten.flatten) : normName (convOf P y) = normName y := by
  unfold convOf
  split
  · next hA =>
    have hc : y.canBeInt = true := List.all_eq_true.1 (allIntOf_eq P ▸ hA) y hy
    rw [normName_of_isInt (toIntName_isInt y)]; simp [normName, hc]
  · next hA =>
    -- some name is not integer-like, so the names are not ints: they are strings
    cases allInt
    · rw [toStrName_of_notInt (hom y hy)]
    · exact absurd ((allIntOf_eq P).trans (List.all_eq_true.2 fun z hz => canBeInt_of_isInt (hom z hz))) hA

/-- the left side is `expect` of `Spec.projOK` -/
theorem projOK_expect_eq {R : List NRanking} {keep : List Name}
    (H : ∀ x ∈ R.flatten.flatten, (keep.map normName).contains (normName x) = true → keep.contains x = true) :
    ((R.map fun r => (r.map fun b => (b.map normName).filter fun x => (keep.map normName).contains x).filter
        fun b => !b.isEmpty).filter fun r => !r.isEmpty)
      = (projR (fun x => keep.contains x) R).map fun r => r.map fun b => b.map normName := by
  unfold projR
  refine filter_nonempty_map fun r hr => filter_nonempty_map fun b hb => ?_
  rw [List.filter_map]
  congr 1
  apply List.filter_congr
  intro x hx
  rw [Function.comp_apply, Bool.eq_iff_iff]
  exact ⟨H x (mem_flatten_flatten.2 ⟨r, hr, List.mem_flatten_of_mem hb hx⟩),
    fun hk => List.contains_iff_mem.2 (List.mem_map_of_mem (List.contains_iff_mem.1 hk))⟩

theorem rebuilt_same {P : List NRanking} {allInt : Bool} (hom : ∀ x ∈ P.flatten.flatten, isIntName x = allInt) :
    let nn := fun (r : NRanking) => r.map fun b => b.map normName
    ((rebuilt P).map nn).length = (P.map nn).length ∧
      (((rebuilt P).map nn).zip (P.map nn)).all (fun q => sameRankingN q.1 q.2) = true := by
  intro nn
  rw [rebuilt, List.map_map, List.zip_map', List.all_map, List.all_eq_true]
  refine ⟨by simp, fun r hr => ?_⟩
  simp only [nn, rebuiltWith, Function.comp_apply, List.map_map]
  refine C17.sameRankingN_map fun b hb => (C17.sameBucket_iff _ _).2 fun x => ?_
  have key : b.map normName = (b.map (convOf P)).map normName := by
    rw [List.map_map]
    exact List.map_congr_left fun y hy =>
      (normName_conv hom (mem_flatten_flatten.2 ⟨r, hr, List.mem_flatten_of_mem hb hy⟩)).symm
  simp only [Function.comp_apply, key, List.mem_map, mem_dedupN]

/-- sufficient for the side condition `hk` of `C16_projection` -/
theorem projHyp_of_inj {U keep : List Name}
    (hinj : ∀ x ∈ U, ∀ k ∈ keep, normName x = normName k → x = k) :
    ∀ x ∈ U, (keep.map normName).contains (normName x) = true → keep.contains x = true := by
  intro x hx h
  rw [List.contains_iff_mem, List.mem_map] at h
  obtain ⟨k, hk, e⟩ := h
  rw [List.contains_iff_mem, hinj x hx k hk e.symm]; exact hk

theorem projHyp_of_int {U keep : List Name} (hU : ∀ x ∈ U, isIntName x = true) (hk : ∀ k ∈ keep, isIntName k = true) :
    ∀ x ∈ U, (keep.map normName).contains (normName x) = true → keep.contains x = true := by
  apply projHyp_of_inj
  intro x hx k hkk e
  rwa [normName_of_isInt (hU x hx), normName_of_isInt (hk k hkk)] at e

end C16L

open Model Spec

inductive DOp where
  | removeElements (els : List Name)
  | removeRate (num den : Nat)
  | removeEmpty

/-- apply one mutator; on an exception the dataset is left as it was -/
def applyDOp (d : DS) : DOp → DS
  | .removeElements els => match removeElements d els with | .ok d' => d' | .error _ => d
  | .removeRate n k => match removeRate d n k with | .ok d' => d' | .error _ => d
  | .removeEmpty => match removeEmptyRankings d with | .ok d' => d' | .error _ => d

end Corankco
