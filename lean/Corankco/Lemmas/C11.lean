import Corankco.Lemmas.C02
import Corankco.Lemmas.SortGroup
/-
  KwikSort.  The `comp` vector of `_where_should_it_be` is the vector of the six status counts (`kwik_comp`) and the
  three costs of the definition are its dot products with the penalty vectors (`isum_status`), so `whereShouldItBe`
  on two rows of rank values is `whereSpec` (`whereShouldItBe_rows`).  The recursion, for an arbitrary placement
  function `w`, keeps the invariant `Good` (`kwikSort_good`; `Good.glue` at each pivot), which an injective renaming
  preserves (`Good.map`).  Last, `whereSpec` under coherence compares `cntBefore` (`coherent_key`), and on copies of
  one ranking it is the placement in that ranking (`whereSpec_replicate_one`, `whereSpec_single`).
-/
namespace Corankco
open Model Spec

/-! ### the counts of `_where_should_it_be` -/

/-- The five tests of the code on one column `(a, b)` of the two rows, as tests on the status they encode. -/
theorem rankStatus_tests {a b : Int} (ha : -1 ≤ a) (hb : -1 ≤ b) :
    (a + b == -2) = (rankStatus b a == 5) ∧
    (a == b) = (rankStatus b a == 2 || rankStatus b a == 5) ∧
    (a == -1) = (rankStatus b a == 3 || rankStatus b a == 5) ∧
    (b == -1) = (rankStatus b a == 4 || rankStatus b a == 5) ∧
    decide (b < a) = (rankStatus b a == 0 || rankStatus b a == 4) := by
  unfold rankStatus
  by_cases h1 : b = -1 <;> by_cases h2 : a = -1
  · subst h1 h2; decide
  · subst h1; simp [h2]; omega
  · subst h2; simp [h1]; omega
  · rcases Int.lt_trichotomy b a with h | h | h
    · simp [h1, h2, h]; omega
    · subst h; simp [h1]; omega
    · simp [h1, h2, h, Int.lt_asymm h]; omega

def stCount (D : Dataset) (x y : Elem) (k : Nat) : Nat := (D.filter fun r => status r x y == k).length

@[simp] theorem stCount_nil (x y : Elem) (k : Nat) : stCount [] x y k = 0 := rfl

/-- `before`, `after`, `tied` are the instances `F = S.B`, `S.B ∘ swapSt`, `S.T`; the number of rankings passing a
    test on the status is the instance where `F` is the test's indicator. -/
theorem isum_status (F : Nat → Int) (D : Dataset) (x y : Elem) :
    isum (D.map fun r => F (status r x y)) =
      F 0 * stCount D x y 0 + F 1 * stCount D x y 1 + F 2 * stCount D x y 2 + F 3 * stCount D x y 3 +
        F 4 * stCount D x y 4 + F 5 * stCount D x y 5 := by
  refine (isum_fibres F (fun r => some (status r x y)) 6 D
    fun r _ k e => Option.some.inj e ▸ status_lt_6 r x y).trans ?_
  simp only [stCount, List.countP_eq_length_filter, Option.some_beq_some, List.range_succ, List.range_zero,
    List.nil_append, List.cons_append, List.map_cons, List.map_nil, isum_cons, isum_nil, Int.mul_comm (F _),
    Int.add_zero, Int.add_assoc]

theorem count_status (Q : Nat → Bool) (D : Dataset) (x y : Elem) :
    ((D.filter fun r => Q (status r x y)).length : Int) = isum (D.map fun r => if Q (status r x y) then 1 else 0) := by
  rw [filter_length_sum, natCast_sum]
  exact isum_map_congr fun r _ => by split <;> rfl

/-- The six entries of `comp`, `p` being the pivot and `e` the other element. -/
theorem kwik_comp {q : Ranking → Elem → Int} (hq : RankFn q) (D : Dataset) (p e : Elem) :
    let z := (D.map (q · p)).zip (D.map (q · e))
    let bothNon : Int := (z.filter fun q => q.1 + q.2 == -2).length
    let same : Int := (z.filter fun q => q.1 == q.2).length
    let pivMiss : Int := ((D.map (q · p)).filter (· == -1)).length
    let othMiss : Int := ((D.map (q · e)).filter (· == -1)).length
    let othBef : Int := (z.filter fun q => decide (q.2 < q.1)).length
    let m : Int := (D.map (q · p)).length
    othBef - othMiss + bothNon = stCount D e p 0 ∧ m - othBef - same - pivMiss + bothNon = stCount D e p 1 ∧
      same - bothNon = stCount D e p 2 ∧ pivMiss - bothNon = stCount D e p 3 ∧
      othMiss - bothNon = stCount D e p 4 ∧ bothNon = stCount D e p 5 := by
  -- the number of rankings whose status passes a test `Q`, over the six status counts
  have cs (Q : Nat → Bool) := (count_status Q D e p).trans (isum_status (fun k => if Q k then 1 else 0) D e p)
  have hm := cs fun _ => true
  rw [List.filter_eq_self.mpr fun _ _ => rfl] at hm
  simp only [List.zip_map', List.filter_map, List.length_map, Function.comp_def,
    (fun r => rankStatus_tests (hq.ge r p) (hq.ge r e)), ← hq.status]
  simp only [cs (· == 5), cs (fun k => k == 2 || k == 5), cs (fun k => k == 3 || k == 5),
    cs (fun k => k == 4 || k == 5), cs (fun k => k == 0 || k == 4), hm, Nat.reduceBEq,
    Bool.or_false, Bool.or_true, Bool.false_eq_true, eq_self, ↓reduceIte, Int.zero_mul, Int.one_mul, Int.add_zero,
    Int.zero_add]
  simp +arith only [and_self]

theorem after_stCount (S : Scheme) (D : Dataset) (p e : Elem) :
    after S D e p = S.b0 * stCount D e p 1 + S.b1 * stCount D e p 0 + S.b2 * stCount D e p 2 +
        S.b3 * stCount D e p 4 + S.b4 * stCount D e p 3 + S.b5 * stCount D e p 5 := by
  unfold after
  simp only [status_swap _ e p]
  rw [isum_status fun k => S.B (swapSt k)]
  show S.b1 * _ + S.b0 * _ + S.b2 * _ + S.b4 * _ + S.b3 * _ + S.b5 * _ = _
  omega

theorem whereShouldItBe_rows {q : Ranking → Elem → Int} (hq : RankFn q) (S : Scheme) (D : Dataset) (p e : Elem) :
    whereShouldItBe S (D.map (q · p)) (D.map (q · e)) = whereSpec S D p e := by
  obtain ⟨k0, k1, k2, k3, k4, k5⟩ := kwik_comp hq D p e
  unfold whereShouldItBe whereSpec before tied
  dsimp only
  rw [k0, k1, k2, k3, k4, k5, after_stCount, isum_status S.B, isum_status S.T]
  rfl

/-! ### the recursion, for an arbitrary placement function `w` -/

theorem bIdx_zone0 {A B : Ranking} {s : Bucket} {x : Elem} (h : x ∈ A.flatten) :
    bIdx (A ++ [s] ++ B) x = bIdx A x ∧ bIdx (A ++ [s] ++ B) x < A.length := by
  have e : bIdx (A ++ [s] ++ B) x = bIdx A x := by rw [List.append_assoc, bIdx_append_left h]
  exact ⟨e, e ▸ bIdx_lt h⟩

theorem bIdx_zone1 {A B : Ranking} {s : Bucket} {x : Elem} (h : x ∉ A.flatten) (hs : x ∈ s) :
    bIdx (A ++ [s] ++ B) x = A.length := by
  rw [List.append_assoc, bIdx_append_right h (by simp [hs]), List.singleton_append, bIdx_cons_of_mem hs, Nat.zero_add]

theorem bIdx_zone2 {A B : Ranking} {s : Bucket} {x : Elem} (h : x ∉ A.flatten) (hs : x ∉ s)
    (hB : x ∈ B.flatten) :
    bIdx (A ++ [s] ++ B) x = A.length + 1 + bIdx B x ∧ A.length < bIdx (A ++ [s] ++ B) x := by
  have e : bIdx (A ++ [s] ++ B) x = A.length + 1 + bIdx B x := by
    rw [List.append_assoc, bIdx_append_right h (by simp [hB]), List.singleton_append, bIdx_cons_of_not_mem hs hB]
    ac_rfl
  exact ⟨e, e ▸ Nat.lt_add_right _ (Nat.lt_succ_self _)⟩

/-- What the recursion guarantees on a call with list `rem`: the output is a partition of `rem` into non-empty
    buckets; every logged step places every element on the side `w` says; and whenever `w` is the comparison
    of a key `f`, the output is `rem` sorted by `f` with ties exactly on equal keys. -/
structure Good (w : Nat → Nat → Int) (rem : List Nat) (out : List (List Nat)) (log : List (List Nat × Nat)) :
    Prop where
  perm : out.flatten.Perm rem
  nonempty : ∀ b ∈ out, b ≠ []
  steps : ∀ st ∈ log, (∀ e ∈ st.1, e ∈ rem) ∧ st.2 ∈ st.1 ∧
    ∀ e ∈ st.1, e ≠ st.2 → cmpIn out e st.2 = compare (w st.2 e) 0
  sorted : ∀ f : Nat → Nat,
    (∀ p ∈ rem, ∀ e ∈ rem, p ≠ e → w p e = ordToInt (compare (f e) (f p))) →
    ∀ x ∈ rem, ∀ y ∈ rem, cmpIn out x y = compare (f x) (f y)

theorem Good.nil (w : Nat → Nat → Int) : Good w [] [] [] :=
  ⟨.nil, nofun, nofun, nofun⟩

theorem Good.single (w : Nat → Nat → Int) (a : Nat) : Good w [a] [[a]] [] := by
  refine ⟨.refl _, List.forall_mem_singleton.mpr (List.cons_ne_nil a []), nofun, ?_⟩
  intro f _ x hx y hy
  simp only [List.mem_singleton] at hx hy
  subst hx; subst hy
  rw [cmpIn_eq, compare_nat_nat_iff]
  simp

theorem ordToInt_compare_sign (a b : Nat) :
    (ordToInt (compare a b) < 0 ↔ a < b) ∧ (ordToInt (compare a b) = 0 ↔ a = b) ∧
    (0 < ordToInt (compare a b) ↔ b < a) := by
  rw [← Nat.compare_eq_lt, ← Nat.compare_eq_eq, ← Nat.compare_eq_gt]
  cases compare a b <;> decide

theorem compare_add_left (c a b : Nat) : compare (c + a) (c + b) = compare a b := by
  simp only [Nat.compare_eq_ite_lt, Nat.add_lt_add_iff_left]

/-- Two numbers that lie about `n` as their keys `a`, `b` lie about `c` compare as their keys do, as soon as they do
    so when both lie strictly on the same side (`Pi`, `Pj`, `Qi`, `Qj` carry what those two cases need). -/
theorem compare_about {i j n a b c : Nat} {Pi Pj Qi Qj : Prop}
    (hi : (a < c ∧ i < n ∧ Pi) ∨ (a = c ∧ i = n) ∨ (c < a ∧ n < i ∧ Qi))
    (hj : (b < c ∧ j < n ∧ Pj) ∨ (b = c ∧ j = n) ∨ (c < b ∧ n < j ∧ Qj))
    (hP : Pi → Pj → compare i j = compare a b) (hQ : Qi → Qj → compare i j = compare a b) :
    compare i j = compare a b := by
  rcases hi with ⟨ha, hi, p⟩ | ⟨rfl, rfl⟩ | ⟨ha, hi, q⟩ <;> rcases hj with ⟨hb, hj, p'⟩ | ⟨rfl, rfl⟩ | ⟨hb, hj, q'⟩
  · exact hP p p'
  · rw [Nat.compare_eq_lt.mpr hi, Nat.compare_eq_lt.mpr ha]
  · rw [Nat.compare_eq_lt.mpr (Nat.lt_trans hi hj), Nat.compare_eq_lt.mpr (Nat.lt_trans ha hb)]
  · rw [Nat.compare_eq_gt.mpr hj, Nat.compare_eq_gt.mpr hb]
  · rw [Nat.compare_eq_eq.mpr rfl, Nat.compare_eq_eq.mpr rfl]
  · rw [Nat.compare_eq_lt.mpr hj, Nat.compare_eq_lt.mpr hb]
  · rw [Nat.compare_eq_gt.mpr (Nat.lt_trans hj hi), Nat.compare_eq_gt.mpr (Nat.lt_trans hb ha)]
  · rw [Nat.compare_eq_gt.mpr hi, Nat.compare_eq_gt.mpr ha]
  · exact hQ q q'

theorem Good.glue {w : Nat → Nat → Int} {rem lb ls la : List Nat} {piv : Nat} (hp : piv ∈ rem)
    (mb : ∀ x ∈ lb, x ∈ rem ∧ x ≠ piv ∧ w piv x < 0)
    (ms : ∀ x ∈ ls, x ∈ rem ∧ x ≠ piv ∧ w piv x = 0)
    (ma : ∀ x ∈ la, x ∈ rem ∧ x ≠ piv ∧ 0 < w piv x)
    (hperm : (lb ++ (piv :: ls) ++ la).Perm rem)
    {ob oa : List (List Nat)} {logb loga : List (List Nat × Nat)}
    (hb : Good w lb ob logb) (ha : Good w la oa loga) :
    Good w rem (ob ++ [piv :: ls] ++ oa) ((rem, piv) :: logb ++ loga) := by
  -- every element of `rem` is in exactly one of the three lists (`w piv x` has one sign), which fixes its bucket
  -- index in the glued output
  have tri : ∀ x ∈ rem, x ∈ lb ∨ x ∈ piv :: ls ∨ x ∈ la := fun x hx => by
    simpa only [List.mem_append, or_assoc] using hperm.mem_iff.mpr hx
  have ns : ∀ x ∈ piv :: ls, x = piv ∨ w piv x = 0 := fun x hx =>
    (List.mem_cons.mp hx).imp_right fun h => (ms x h).2.2
  have kb : ∀ x ∈ lb, bIdx (ob ++ [piv :: ls] ++ oa) x = bIdx ob x ∧
      bIdx (ob ++ [piv :: ls] ++ oa) x < ob.length := fun x hx => bIdx_zone0 (hb.perm.mem_iff.mpr hx)
  have ks : ∀ x ∈ piv :: ls, bIdx (ob ++ [piv :: ls] ++ oa) x = ob.length := fun x hx =>
    bIdx_zone1 (fun h => by
      have m := mb x (hb.perm.mem_iff.mp h)
      exact (ns x hx).elim m.2.1 fun e => Int.lt_irrefl 0 (e ▸ m.2.2)) hx
  have ka : ∀ x ∈ la, bIdx (ob ++ [piv :: ls] ++ oa) x = ob.length + 1 + bIdx oa x ∧
      ob.length < bIdx (ob ++ [piv :: ls] ++ oa) x := fun x hx =>
    bIdx_zone2 (fun h => Int.lt_asymm (mb x (hb.perm.mem_iff.mp h)).2.2 (ma x hx).2.2)
      (fun h => (ns x h).elim (ma x hx).2.1 fun e => Int.lt_irrefl 0 (e ▸ (ma x hx).2.2))
      (ha.perm.mem_iff.mpr hx)
  refine ⟨?_, ?_, ?_, ?_⟩
  · simp only [List.flatten_append, List.flatten_cons, List.flatten_nil, List.append_nil]
    exact ((hb.perm.append_right (piv :: ls)).append ha.perm).trans hperm
  · intro b hb'
    simp only [List.mem_append, List.mem_singleton] at hb'
    rcases hb' with (h | h) | h
    · exact hb.nonempty b h
    · subst h; simp
    · exact ha.nonempty b h
  · intro st hst
    simp only [List.cons_append, List.mem_cons, List.mem_append] at hst
    rcases hst with rfl | h | h
    · refine ⟨fun e he => he, hp, fun e he hne => ?_⟩
      rw [cmpIn_eq, ks piv (List.mem_cons_self ..)]
      rcases tri e he with h | h | h
      · rw [Nat.compare_eq_lt.mpr (kb e h).2, Int.compare_eq_lt.mpr (mb e h).2.2]
      · rw [ks e h, Nat.compare_eq_eq.mpr rfl, Int.compare_eq_eq.mpr ((ns e h).resolve_left hne)]
      · rw [Nat.compare_eq_gt.mpr (ka e h).2, Int.compare_eq_gt.mpr (ma e h).2.2]
    · obtain ⟨s1, s2, s3⟩ := hb.steps st h
      refine ⟨fun e he => (mb e (s1 e he)).1, s2, fun e he hne => ?_⟩
      rw [← s3 e he hne, cmpIn_eq, cmpIn_eq, (kb e (s1 e he)).1, (kb st.2 (s1 st.2 s2)).1]
    · obtain ⟨s1, s2, s3⟩ := ha.steps st h
      refine ⟨fun e he => (ma e (s1 e he)).1, s2, fun e he hne => ?_⟩
      rw [← s3 e he hne, cmpIn_eq, cmpIn_eq, (ka e (s1 e he)).1, (ka st.2 (s1 st.2 s2)).1, compare_add_left]
  · intro f hw x hx y hy
    have sg : ∀ z ∈ rem, z ≠ piv →
        (w piv z < 0 ↔ f z < f piv) ∧ (w piv z = 0 ↔ f z = f piv) ∧ (0 < w piv z ↔ f piv < f z) := by
      intro z hz hne
      rw [hw piv hp z hz (fun h => hne h.symm)]
      exact ordToInt_compare_sign (f z) (f piv)
    -- the three lists are the three positions of `f z` relative to `f piv`
    have kf : ∀ z ∈ rem,
        (f z < f piv ∧ bIdx (ob ++ [piv :: ls] ++ oa) z < ob.length ∧ z ∈ lb) ∨
        (f z = f piv ∧ bIdx (ob ++ [piv :: ls] ++ oa) z = ob.length) ∨
        (f piv < f z ∧ ob.length < bIdx (ob ++ [piv :: ls] ++ oa) z ∧ z ∈ la) := by
      intro z hz
      rcases tri z hz with h | h | h
      · exact .inl ⟨(sg z hz (mb z h).2.1).1.mp (mb z h).2.2, (kb z h).2, h⟩
      · refine .inr (.inl ⟨?_, ks z h⟩)
        by_cases e : z = piv
        · rw [e]
        · exact (sg z hz e).2.1.mp ((ns z h).resolve_left e)
      · exact .inr (.inr ⟨(sg z hz (ma z h).2.1).2.2.mp (ma z h).2.2, (ka z h).2, h⟩)
    -- both before or both after the pivot: the sub-result; otherwise the pivot's bucket separates them
    rw [cmpIn_eq]
    refine compare_about (kf x hx) (kf y hy) (fun h h' => ?_) (fun h h' => ?_)
    · rw [(kb x h).1, (kb y h').1]
      exact hb.sorted f (fun p hp' e he => hw p (mb p hp').1 e (mb e he).1) x h y h'
    · rw [(ka x h).1, (ka y h').1, compare_add_left]
      exact ha.sorted f (fun p hp' e he => hw p (ma p hp').1 e (ma e he).1) x h y h'

theorem Good.step {w : Nat → Nat → Int} {rem : List Nat} (hnd : rem.Nodup) {piv : Nat} (hp : piv ∈ rem)
    {ob oa : List (List Nat)} {lb la : List (List Nat × Nat)}
    (hb : Good w ((rem.filter (· ≠ piv)).filter fun e => decide (w piv e < 0)) ob lb)
    (ha : Good w ((rem.filter (· ≠ piv)).filter fun e => decide (w piv e > 0)) oa la) :
    Good w rem (ob ++ [piv :: (rem.filter (· ≠ piv)).filter fun e => decide (w piv e = 0)] ++ oa)
      ((rem, piv) :: lb ++ la) := by
  have mem (P : Nat → Prop) [DecidablePred P] :
      ∀ x ∈ (rem.filter (· ≠ piv)).filter fun e => decide (P e), x ∈ rem ∧ x ≠ piv ∧ P x := fun x hx => by
    simpa only [List.mem_filter, decide_eq_true_eq, and_assoc] using hx
  refine Good.glue hp (mem _) (mem _) (mem _) ?_ hb ha
  · have h2 := filter3_perm (w piv) (fun _ => 0) (rem.filter (· ≠ piv))
    refine (List.Perm.trans ?_ (List.Perm.cons piv h2)).trans (perm_cons_filter_ne hnd hp).symm
    simp only [List.append_assoc, List.cons_append]
    exact List.perm_middle

/-- The guarded recursive call of `_kwik_sort` on one side `l` of the pivot, `res` being the recursive result. -/
theorem Good.guard {w : Nat → Nat → Int} {l s : List Nat} {res t : List (List Nat) × List Nat × List (List Nat × Nat)}
    (h : Good w l res.1 res.2.2)
    (ht : t = if l.length = 1 then ([l], s, []) else if l.length > 0 then res else ([], s, [])) :
    Good w l t.1 t.2.2 := by
  subst ht
  split
  · next h1 =>
    obtain ⟨a, rfl⟩ := List.length_eq_one_iff.mp h1
    exact Good.single w a
  · split
    · exact h
    · next h0 =>
      obtain rfl : l = [] := List.eq_nil_of_length_eq_zero (Nat.eq_zero_of_not_pos h0)
      exact Good.nil w

theorem kwikSort_good (w : Nat → Nat → Int) (fuel : Nat) (rem script : List Nat) (hnd : rem.Nodup)
    (hl : rem.length ≤ fuel) :
    Good w rem (kwikSort w fuel rem script).1 (kwikSort w fuel rem script).2.2 := by
  fun_induction kwikSort w fuel rem script with
  | case1 rem =>
    obtain rfl : rem = [] := List.eq_nil_of_length_eq_zero (Nat.le_zero.mp hl)
    exact Good.nil w
  | case2 => exact Good.nil w
  | case3 fuel script r0 rest idx script' piv others before after rb ihb iha =>
    have hp : piv ∈ r0 :: rest := getD_mem r0 (Nat.mod_lt _ (Nat.succ_pos _))
    have hfl : ∀ q : Nat → Bool, (others.filter q).length ≤ fuel := fun q =>
      Nat.le_trans (List.length_filter_le q others)
        (Nat.le_of_succ_le_succ (Nat.le_trans (Nat.le_of_eq (perm_cons_filter_ne hnd hp).length_eq.symm) hl))
    have hfn : ∀ q : Nat → Bool, (others.filter q).Nodup :=
      fun q => (hnd.sublist List.filter_sublist).sublist List.filter_sublist
    -- the `have`s of the goal unfold to `rb.1 ++ [piv :: same] ++ ra.1`, `rb` and `ra` being the two guarded calls
    exact Good.step hnd hp (Good.guard (ihb (hfn _) (hfl _)) rfl) (Good.guard (iha (hfn _) (hfl _)) rfl)

theorem Good.map {w w' : Nat → Nat → Int} {rem rem' : List Nat} {out : List (List Nat)}
    {log : List (List Nat × Nat)} (h : Good w rem out log) (g : Nat → Nat)
    (hg : ∀ a ∈ rem, ∀ b ∈ rem, g a = g b → a = b) (hw : ∀ p ∈ rem, ∀ e ∈ rem, p ≠ e → w p e = w' (g p) (g e))
    (hr : (rem.map g).Perm rem') :
    Good w' rem' (out.map (List.map g)) (log.map fun st => (st.1.map g, g st.2)) := by
  have mem : ∀ a ∈ rem, g a ∈ rem' := fun a ha => hr.mem_iff.mp (List.mem_map_of_mem ha)
  have hc : ∀ a ∈ rem, ∀ b ∈ rem, cmpIn (out.map (List.map g)) (g a) (g b) = cmpIn out a b := by
    intro a ha b hb
    unfold cmpIn
    rw [bucketIdx_map_inj g out a fun c hc => hg c (h.perm.mem_iff.mp hc) a ha,
      bucketIdx_map_inj g out b fun c hc => hg c (h.perm.mem_iff.mp hc) b hb]
  refine ⟨?_, ?_, ?_, ?_⟩
  · rw [← List.map_flatten]
    exact (h.perm.map g).trans hr
  · intro b hb
    obtain ⟨b0, hb0, rfl⟩ := List.mem_map.mp hb
    simpa using h.nonempty b0 hb0
  · intro st hst
    obtain ⟨st0, hst0, rfl⟩ := List.mem_map.mp hst
    obtain ⟨s1, s2, s3⟩ := h.steps st0 hst0
    simp only [List.forall_mem_map]
    refine ⟨fun e he => mem e (s1 e he), List.mem_map_of_mem s2, fun e he hne => ?_⟩
    have hne : e ≠ st0.2 := fun e' => hne (by rw [e'])
    rw [hc e (s1 e he) _ (s1 _ s2), ← hw _ (s1 _ s2) e (s1 e he) hne.symm]
    exact s3 e he hne
  · intro f hf x hx y hy
    obtain ⟨a, ha, rfl⟩ := List.mem_map.mp (hr.mem_iff.mpr hx)
    obtain ⟨b, hb, rfl⟩ := List.mem_map.mp (hr.mem_iff.mpr hy)
    rw [hc a ha b hb]
    refine h.sorted (fun i => f (g i)) (fun p hp e he hne => ?_) a ha b hb
    rw [hw p hp e he hne]
    exact hf _ (mem p hp) _ (mem e he) fun e' => hne (hg p hp e he e')

/-! ### `whereSpec`: coherent datasets, copies of one ranking -/

theorem ordToInt_compare_whereSpec (S : Scheme) (D : Dataset) (p e : Elem) :
    ordToInt (compare (whereSpec S D p e) 0) = whereSpec S D p e := by
  unfold whereSpec
  dsimp only
  repeat' split
  all_goals decide

theorem coherent_key (S : Scheme) (D : Dataset) (hc : coherent S D = true) :
    ∀ p ∈ univOf D, ∀ e ∈ univOf D, p ≠ e →
      whereSpec S D p e = ordToInt (compare (cntBefore S D e) (cntBefore S D p)) := by
  unfold coherent at hc
  simp only [List.all_eq_true, Bool.or_eq_true, beq_iff_eq] at hc
  intro p hp e he hne
  rcases hc e he p hp with h | h
  · exact absurd h.symm hne
  · exact h

theorem ordersBy_of_sorted {univ : List Elem} {out : Ranking} (f : Elem → Nat)
    (hw : wellFormedRanking univ out = true)
    (hs : ∀ x ∈ univ, ∀ y ∈ univ, cmpIn out x y = compare (f x) (f y)) :
    ordersBy univ (fun x y => decide (f x ≤ f y)) out = true := by
  refine SortGroup.ordersBy_of_bIdx hw fun x hx y hy => ?_
  rw [decide_eq_true_eq, ← Nat.isLE_compare, ← cmpIn_eq, hs x hx y hy, Nat.isLE_compare]

theorem mem_univOf_replicate {r : Ranking} {m : Nat} (hm : 0 < m) (x : Elem) :
    x ∈ univOf (List.replicate m r) ↔ x ∈ r.flatten := by
  rw [mem_univOf]
  exact ⟨fun ⟨_, hr, hx⟩ => List.eq_of_mem_replicate hr ▸ hx,
    fun hx => ⟨r, List.mem_replicate.mpr ⟨Nat.ne_of_gt hm, rfl⟩, hx⟩⟩

theorem whereSpec_replicate_one (S : Scheme) (r : Ranking) (m : Nat) (hm : 0 < m) (p e : Elem) :
    whereSpec S (List.replicate m r) p e = whereSpec S [r] p e := by
  have hM : (0 : Int) < m := Int.natCast_pos.mpr hm
  -- all three costs are multiplied by the number of copies
  unfold whereSpec before after tied
  simp only [isum_map_replicate, List.map_cons, List.map_nil, isum_cons, isum_nil, Int.add_zero,
    Int.mul_le_mul_left hM]

/-- `ht`: creating a tie costs something; `hb`: breaking one does. -/
theorem whereSpec_single (S : Scheme) (hS : S.Valid) (ht : 0 < S.t0) (hb : 0 < S.b2)
    (r : Ranking) (p e : Elem) (hp : p ∈ r.flatten) (he : e ∈ r.flatten) :
    whereSpec S [r] p e = ordToInt (compare (bIdx r e) (bIdx r p)) := by
  have := hS.b0
  have := hS.b1_pos
  have := hS.t01
  have := hS.t2
  obtain ⟨i, hi⟩ := exists_bucketIdx_eq_some he
  obtain ⟨j, hj⟩ := exists_bucketIdx_eq_some hp
  unfold whereSpec before after tied bIdx
  simp only [List.map_cons, List.map_nil, isum_cons, isum_nil, Int.add_zero, status, hi, hj, Option.getD_some]
  -- in each position the three costs are three penalties of `S`, compared by `omega`
  rcases compare_nat_cases i j with ⟨h, e'⟩ | ⟨h, e'⟩ | ⟨h, e'⟩ <;> rw [e']
  · simp only [h, Nat.lt_asymm h, if_true, if_false, Scheme.B, Scheme.T, ordToInt]
    omega
  · simp only [h, Nat.lt_irrefl, if_false, Scheme.B, Scheme.T, ordToInt]
    omega
  · simp only [h, Nat.lt_asymm h, if_true, if_false, Scheme.B, Scheme.T, ordToInt]
    omega

end Corankco
