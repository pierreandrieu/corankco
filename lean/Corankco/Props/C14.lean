import Corankco.Lemmas.C14
/-
  C14 — applicability of a scoring scheme to incomplete rankings, for every algorithm configuration (any nesting
  depth): what `is_scoring_scheme_relevant_when_incomplete_rankings` declares against what `compute_consensus_rankings`
  refuses (`C14_true_accepts`, `C14_complete`, `C14_exact`); then the selector `algorithm_choice.py`
  (`C14_factory_named`, `C14_compatible_any`).
-/
namespace Corankco
open Model

/-- what a BioConsert declares is the conjunction of what its starting algorithms declare -/
theorem C14_relevant_bioConsert (st : List Alg) (S : Scheme) :
    relevant (.bioConsert st) S = st.all fun a => relevant a S :=
  C14.relevantAll_eq_all S st

/-- what a ParCons declares is what its auxiliary algorithm declares -/
theorem C14_relevant_parCons (aux : Alg) (S : Scheme) : relevant (.parCons aux) S = relevant aux S := rfl

/-- a BioConsert may refuse exactly when one of its starting algorithms may -/
theorem C14_mayRefuse_bioConsert (st : List Alg) (S : Scheme) (complete : Bool) :
    mayRefuse (.bioConsert st) S complete = st.any fun a => mayRefuse a S complete :=
  C14.mayRefuseAny_eq_any S complete st

/-- a ParCons may refuse exactly when its auxiliary algorithm may -/
theorem C14_mayRefuse_parCons (aux : Alg) (S : Scheme) (complete : Bool) :
    mayRefuse (.parCons aux) S complete = mayRefuse aux S complete := rfl

/-- declared relevant ⇒ never refused, on complete and on incomplete data -/
theorem C14_true_accepts (a : Alg) (S : Scheme) (h : relevant a S = true) (complete : Bool) :
    mayRefuse a S complete = false :=
  C14.accepts S complete a h

/-- complete data is never refused, whatever the scheme -/
theorem C14_complete (a : Alg) (S : Scheme) : mayRefuse a S true = false :=
  C14.complete S a

/-- for the configurations `exactRefusal` admits, an incomplete dataset is refused exactly when the scheme was declared
    not relevant.  The hypothesis is not used: `C14.mayRefuse_eq` holds for every configuration. -/
theorem C14_exact (a : Alg) (S : Scheme) (h : exactRefusal a = true) :
    mayRefuse a S false = !relevant a S :=
  C14.mayRefuse_eq S false a

/-- the guards of the concrete algorithm models agree with `mayRefuse` for the base cases -/
theorem C14_borda_guard (useBid : Bool) (S : Scheme) (D : Dataset) :
    (match borda useBid S D with | .ok _ => false | .error _ => true) = mayRefuse .borda S (isComplete D) := by
  unfold borda
  simp only [mayRefuse]
  cases (!isComplete D && !bordaRelevant S) <;> rfl

theorem C14_pickAPerm_guard (amo : Bool) (S : Scheme) (D : Dataset) :
    (match pickAPerm amo S D with | .ok _ => false | .error _ => true) = mayRefuse .pickAPerm S (isComplete D) := by
  unfold pickAPerm
  simp only [mayRefuse]
  cases (!isComplete D && !isEquivalentTo S unifying)
  · generalize pickScan _ amo _ none = o
    rcases o with _ | ⟨m, acc⟩ <;> rfl
  · rfl

/-- the two guards raise the documented exception of their algorithm, and nothing else -/
theorem C14_borda_error (useBid : Bool) (S : Scheme) (D : Dataset) (e : AErr) (h : borda useBid S D = .error e) :
    e = .schemeNotHandled := by
  unfold borda at h
  split at h
  · cases h; rfl
  · cases h

theorem C14_pickAPerm_error (amo : Bool) (S : Scheme) (D : Dataset) (e : AErr)
    (h : pickAPerm amo S D = .error e) : e = .incompatible := by
  unfold pickAPerm at h
  split at h
  · cases h; rfl
  · dsimp only at h
    revert h
    generalize pickScan _ amo _ none = o
    rcases o with _ | ⟨m, acc⟩ <;> intro h <;> cases h

def C14.exNested : Alg := .parCons (.bioConsert [.borda, .bioConsert [.pickAPerm, .kwik], .exact])
def C14.exNested2 : Alg := .bioConsert [.bioConsert [.bioConsert [.bioCo], .parCons .borda], .copeland]

/-- relevant only for schemes equivalent to the unifying one (PickAPerm is the binding member) -/
example : relevant C14.exNested unifying = true ∧ relevant C14.exNested unifyingHalf = false ∧
    relevant C14.exNested induced = false ∧ relevant C14.exNested pseudo = false := by decide +kernel

/-- accepted when declared relevant; otherwise refused on incomplete data only -/
example : mayRefuse C14.exNested unifying false = false ∧ mayRefuse C14.exNested unifying true = false ∧
    mayRefuse C14.exNested induced false = true ∧ mayRefuse C14.exNested induced true = false ∧
    mayRefuse C14.exNested pseudo false = true ∧ mayRefuse C14.exNested pseudo true = false := by decide +kernel

/-- the second one follows the four Borda families -/
example : relevant C14.exNested2 unifying = true ∧ relevant C14.exNested2 inducedHalf = true ∧
    relevant C14.exNested2 pseudo = false ∧ relevant C14.exNested2 extended = false ∧
    mayRefuse C14.exNested2 inducedHalf false = false ∧ mayRefuse C14.exNested2 pseudo false = true ∧
    mayRefuse C14.exNested2 pseudo true = false := by decide +kernel

/-- `exactRefusal` admits the flat BioConsert (and the empty one), not nested ones nor one started from BioCo -/
example : exactRefusal (.bioConsert [.borda, .pickAPerm, .kwik]) = true ∧ exactRefusal (.bioConsert []) = true ∧
    exactRefusal C14.exNested = false ∧ exactRefusal C14.exNested2 = false ∧
    exactRefusal (.bioConsert [.bioCo]) = false := by decide +kernel

example : mayRefuse (.bioConsert [.borda, .pickAPerm, .kwik]) induced false = true ∧
    relevant (.bioConsert [.borda, .pickAPerm, .kwik]) induced = false ∧
    mayRefuse (.bioConsert [.borda, .pickAPerm, .kwik]) unifying false = false ∧
    relevant (.bioConsert [.borda, .pickAPerm, .kwik]) unifying = true := by decide +kernel

example : mayRefuse C14.exNested unifying false = false := C14_true_accepts _ _ (by decide) _
example (S : Scheme) : mayRefuse C14.exNested2 S true = false := C14_complete _ _
example (S : Scheme) : mayRefuse (.bioConsert [.borda, .pickAPerm, .kwik]) S false =
    !relevant (.bioConsert [.borda, .pickAPerm, .kwik]) S := C14_exact _ _ (by decide)

/-- the guards on concrete datasets -/
example : (match borda false pseudo [[[0, 1], [2]], [[2], [1]]] with | .ok _ => false | .error _ => true) = true ∧
    mayRefuse .borda pseudo (isComplete [[[0, 1], [2]], [[2], [1]]]) = true ∧
    mayRefuse .borda pseudo (isComplete [[[0], [1]], [[1], [0]]]) = false ∧
    mayRefuse .pickAPerm induced (isComplete [[[0], [1]], [[1]]]) = true := by decide +kernel

#guard relevant C14.exNested unifying && !relevant C14.exNested induced && mayRefuse C14.exNested induced false
#guard !mayRefuse C14.exNested induced true && relevant C14.exNested2 inducedHalf && !relevant C14.exNested2 pseudo

/-- every member of the enum `Algorithm` indexes a class of the list, the one it names -/
theorem C14_factory_named (a : AlgName) (p : Params) : getAlgorithm a p = some (construct a.named p) := by
  cases a <;> rfl

/-- so `get_algorithm` is total on the enum -/
theorem C14_factory_total (a : AlgName) (p : Params) : (getAlgorithm a p).isSome = true := by
  rw [C14_factory_named]; rfl

/-- `get_all()` lists every member -/
theorem C14_getAll (a : AlgName) : a ∈ AlgName.getAll := by
  cases a <;> decide

/-- `get_all()` lists no member twice -/
theorem C14_getAll_nodup : AlgName.getAll.Nodup := by decide

/-- so `get_all()` lists every member of the "compatible" list -/
theorem C14_compatible_sub (a : AlgName) (_h : a ∈ AlgName.compatibleWithAny) : a ∈ AlgName.getAll := C14_getAll a

/-- the enum values are pairwise distinct: `ofValue?` inverts `value` -/
theorem C14_value_ofValue (a : AlgName) : AlgName.ofValue? a.value = some a := by
  cases a <;> rfl

/-- declared "compatible with any scoring scheme" is truthful: with default parameters such an algorithm declares every
    scheme relevant for incomplete rankings and refuses no dataset, complete or not -/
theorem C14_compatible_any (a : AlgName) (h : a ∈ AlgName.compatibleWithAny) (S : Scheme) :
    ∃ alg, getAlgorithm a {} = some alg ∧ relevant alg S = true ∧ ∀ complete, mayRefuse alg S complete = false := by
  have key : ∃ alg, getAlgorithm a {} = some alg ∧ relevant alg S = true := by
    cases a
    case BIOCO => exact absurd h (by decide)
    case PICKAPERM => exact absurd h (by decide)
    case BORDACOUNT => exact absurd h (by decide)
    all_goals exact ⟨_, rfl, by simp [construct, relevant, relevantAll]⟩
  obtain ⟨alg, h1, h2⟩ := key
  exact ⟨alg, h1, h2, fun c => C14_true_accepts alg S h2 c⟩

/-- a member left out of that list builds, with default parameters, a BioCo, a PickAPerm or a Borda -/
theorem C14_not_compatible (a : AlgName) (h : a ∉ AlgName.compatibleWithAny) :
    ∃ alg, getAlgorithm a {} = some alg ∧ (alg = .bioCo ∨ alg = .pickAPerm ∨ alg = .borda) := by
  cases a
  case BIOCO => exact ⟨_, rfl, Or.inl rfl⟩
  case PICKAPERM => exact ⟨_, rfl, Or.inr (Or.inl rfl)⟩
  case BORDACOUNT => exact ⟨_, rfl, Or.inr (Or.inr rfl)⟩
  all_goals exact absurd (by decide) h

end Corankco
