import Corankco.Lemmas.BioArr
/-
  The two searches of BioConsert (`searchChange`, `searchAdd`) accumulate the array in place, cell by cell away from
  the bucket of the element, and stop at the first cell below `-τ`.  One invariant, `ScanInv`, serves both scan
  directions.  `searchAdd` from bucket `b` is `searchChange` from bucket `b + 1` (`searchChange_succ`), so what
  `searchChange` does to an arbitrary array (`searchChange_scan`: it reads the sums `around arr b`) gives both results,
  `searchChange_spec` and `searchAdd_spec`, in the common shape `SearchSpec`.
-/
namespace Corankco
open Model Spec
namespace BioSM

/-- the state the scans start from: the base cell `c` has been tested -/
abbrev tested (τ : Int) (arr : List Int) (c : Nat) : Option Nat × List Int :=
  (if arr.getD c 0 < -τ then some c else none, arr)

/-- invariant of a scan over `arr`: the cells with `done` have been visited, and a visited cell `m` holds `C m` -/
def ScanInv (τ : Int) (arr : List Int) (C : Nat → Int) (done : Nat → Prop) (st : Option Nat × List Int) : Prop :=
  match st.1 with
  | none => (∀ m, done m → st.2.getD m 0 = C m ∧ -τ ≤ C m) ∧ (∀ m, ¬ done m → st.2.getD m 0 = arr.getD m 0) ∧
            st.2.length = arr.length
  | some to => done to ∧ st.2.getD to 0 = C to ∧ C to < -τ

theorem scanInv_tested (τ : Int) (arr : List Int) (C : Nat → Int) (c : Nat) (done : Nat → Prop)
    (hd : ∀ m, done m ↔ m = c) (hC : C c = arr.getD c 0) : ScanInv τ arr C done (tested τ arr c) := by
  unfold tested
  split
  · next h => exact ⟨(hd c).mpr rfl, hC.symm, hC ▸ h⟩
  · next h =>
    refine ⟨fun m hm => ?_, fun _ _ => rfl, rfl⟩
    obtain rfl := (hd m).mp hm
    exact ⟨hC.symm, hC ▸ Int.not_lt.mp h⟩

/-- one step of either scan: cell `i` receives the value of the visited cell `p` -/
theorem scanInv_step {τ : Int} {arr : List Int} {C : Nat → Int} {done done' : Nat → Prop} {st : Option Nat × List Int}
    (h : ScanInv τ arr C done st) (i p : Nat) (hi : i < arr.length) (hp : done p) (hni : ¬ done i)
    (hC : C i = arr.getD i 0 + C p) (hd : ∀ m, done' m ↔ done m ∨ m = i) :
    ScanInv τ arr C done'
      (match st.1 with
        | some _ => st
        | none => (if (addAt st.2 i (st.2.getD p 0)).getD i 0 < -τ then some i else none,
            addAt st.2 i (st.2.getD p 0))) := by
  obtain ⟨o, a⟩ := st
  cases o with
  | some to => exact ⟨(hd to).mpr (Or.inl h.1), h.2⟩
  | none =>
    obtain ⟨h1, h2, h4⟩ := h
    have hia : i < a.length := h4.symm ▸ hi
    have hnew : (addAt a i (a.getD p 0)).getD i 0 = C i := by
      rw [getD_addAt hia, if_pos rfl, h2 i hni, (h1 p hp).1, hC]
    simp only []
    split
    · next hlt => exact ⟨(hd i).mpr (Or.inr rfl), hnew, hnew ▸ hlt⟩
    · next hlt =>
      refine ⟨fun m hm => ?_, fun m hm => ?_, (length_addAt ..).trans h4⟩
      · rcases (hd m).mp hm with g | rfl
        · have : m ≠ i := fun e => hni (e ▸ g)
          rw [getD_addAt hia, if_neg this, Int.add_zero]
          exact h1 m g
        · exact ⟨hnew, hnew ▸ Int.not_lt.mp hlt⟩
      · rw [getD_addAt hia, if_neg (fun e => hm ((hd m).mpr (Or.inr e))), Int.add_zero]
        exact h2 m fun g => hm ((hd m).mpr (Or.inl g))

theorem scanRight_inv (τ : Int) (arr : List Int) (c k : Nat) (hlen : c + k < arr.length) :
    ScanInv τ arr (sumRange arr c) (fun m => c ≤ m ∧ m ≤ c + k)
      ((List.range' (c + 1) k).foldl (accRight τ) (tested τ arr c)) := by
  induction k with
  | zero =>
    exact scanInv_tested τ arr _ c _ (fun _ => and_comm.trans Nat.le_antisymm_iff.symm) (sumRange_single arr c)
  | succ k ih =>
    rw [List.range'_1_concat, List.foldl_append, Nat.add_right_comm]
    exact scanInv_step (ih (Nat.lt_of_succ_lt hlen)) (c + k + 1) (c + k) hlen ⟨Nat.le_add_right _ _, Nat.le_refl _⟩
      (fun g => Nat.not_succ_le_self _ g.2)
      ((sumRange_succ_right (Nat.le_add_right_of_le (Nat.le_add_right _ _))).trans (Int.add_comm _ _))
      (fun m => by omega)

/-- the leftward scan from `c` down to `lo`, as a `foldr` so that the last step is the outermost -/
theorem scanLeft_inv (τ : Int) (arr : List Int) (c k lo : Nat) (hlen : c < arr.length) (hlo : lo + k = c) :
    ScanInv τ arr (fun m => sumRange arr m c) (fun m => lo ≤ m ∧ m ≤ c)
      ((List.range' lo k).foldr (fun i st => accLeft τ st i) (tested τ arr c)) := by
  induction k generalizing lo with
  | zero =>
    exact scanInv_tested τ arr _ c _ (fun _ => hlo ▸ and_comm.trans Nat.le_antisymm_iff.symm) (sumRange_single arr c)
  | succ k ih =>
    rw [List.range'_succ, List.foldr_cons]
    have hc : lo + 1 ≤ c := hlo ▸ Nat.add_le_add_left (Nat.succ_pos k) lo
    exact scanInv_step (ih (lo + 1) ((Nat.succ_add_eq_add_succ lo k).trans hlo)) lo (lo + 1) (Nat.lt_trans hc hlen)
      ⟨Nat.le_refl _, hc⟩ (fun g => Nat.not_succ_le_self _ g.1) (sumRange_succ_left (Nat.le_of_succ_le hc))
      (fun m => by omega)

/-- common shape of the two results, for the cumulative values `val` and the admissible targets `ok` -/
def SearchSpec (τ : Int) (val : Nat → Int) (ok : Nat → Prop) (res : Option Nat × List Int) : Prop :=
  match res.1 with
  | some to => ok to ∧ res.2.getD to 0 = val to ∧ val to < -τ
  | none => ∀ j, ok j → -τ ≤ val j

theorem SearchSpec.some {τ : Int} {val : Nat → Int} {ok : Nat → Prop} {res : Option Nat × List Int} {to : Nat}
    {a : List Int} (h : SearchSpec τ val ok res) (e : res = (some to, a)) :
    ok to ∧ a.getD to 0 = val to ∧ val to < -τ := by
  subst e; exact h

theorem SearchSpec.none {τ : Int} {val : Nat → Int} {ok : Nat → Prop} {res : Option Nat × List Int}
    {a : List Int} (h : SearchSpec τ val ok res) (e : res = (none, a)) : ∀ j, ok j → -τ ≤ val j := by
  subst e; exact h

theorem downFrom_pred (b : Nat) :
    downFrom (if b + 1 ≥ 2 then some (b + 1 - 2) else none) = (List.range b).reverse := by
  cases b <;> rfl

theorem searchChange_scan (τ : Int) (b maxId : Nat) (hb : b ≤ maxId) (arr : List Int)
    (hlen : maxId + 1 < arr.length) :
    SearchSpec τ (around arr b) (fun j => j ≤ maxId) (searchChange τ b arr maxId) := by
  have hm : maxId < arr.length := Nat.lt_of_succ_lt hlen
  have hR := scanRight_inv τ arr b (maxId - b)
  rw [Nat.add_sub_cancel' hb] at hR
  specialize hR hm
  unfold searchChange around
  simp only []
  generalize (List.range' (b + 1) (maxId - b)).foldl (accRight τ) (tested τ arr b) = st1 at hR
  obtain ⟨o1, a1⟩ := st1
  cases o1 with
  | some to =>
    obtain ⟨g1, g2⟩ := hR
    -- `SearchSpec` at a reported target, the `if` of `around` in sight
    show _ ∧ _ = ite _ _ _ ∧ ite _ _ _ < _
    rw [if_pos g1.1]
    exact ⟨g1.2, g2⟩
  | none =>
    obtain ⟨h1, h2, h4⟩ := hR
    simp only []
    cases b with
    -- at `b = 0` both conditionals reduce: there is no leftward scan and every target is on the right
    | zero => exact fun j hj => (h1 j ⟨Nat.zero_le j, hj⟩).2
    | succ b =>
      rw [if_neg (Nat.succ_ne_zero b), downFrom_pred, List.foldl_reverse, List.range_eq_range', Nat.add_sub_cancel]
      have hL := scanLeft_inv τ a1 b b 0 (h4 ▸ Nat.lt_trans hb hm) (Nat.zero_add b)
      -- the rightward scan has not touched the cells up to `b`
      have hleft : ∀ m, sumRange a1 m b = sumRange arr m b :=
        fun m => sumRange_congr fun k _ hk => h2 k fun g => Nat.not_succ_le_self _ (Nat.le_trans g.1 hk)
      generalize (List.range' 0 b).foldr (fun i st => accLeft τ st i) (tested τ a1 b) = st2 at hL
      obtain ⟨o2, a2⟩ := st2
      cases o2 with
      | some to =>
        obtain ⟨g1, g2⟩ := hL
        show _ ∧ _ = ite _ _ _ ∧ ite _ _ _ < _
        rw [if_neg (Nat.not_le_of_lt (Nat.lt_succ_of_le g1.2)), ← hleft to]
        exact ⟨Nat.le_trans g1.2 (Nat.le_of_succ_le hb), g2⟩
      | none =>
        intro j hj
        show -τ ≤ ite _ _ _
        split
        · next g => exact (h1 j ⟨g, hj⟩).2
        · next g => exact hleft j ▸ (hL.1 j ⟨Nat.zero_le j, Nat.le_of_not_lt g⟩).2

theorem searchChange_succ (τ : Int) (b M : Nat) (arr : List Int) :
    searchChange τ (b + 1) arr (M + 1) = searchAdd τ b arr M := by
  simp only [searchChange, searchAdd, Nat.add_sub_add_right, Nat.add_sub_cancel, Nat.succ_ne_zero, if_false]
  cases b <;> rfl

theorem searchAdd_spec (τ : Int) (b maxId : Nat) (hb : b ≤ maxId) (add : List Int)
    (hlen : maxId + 2 < add.length) :
    SearchSpec τ (around add (b + 1)) (fun j => j ≤ maxId + 1) (searchAdd τ b add maxId) :=
  searchChange_succ τ b maxId add ▸ searchChange_scan τ (b + 1) (maxId + 1) (Nat.succ_le_succ hb) add hlen

/-- with `change[b] = 0` the sums from `b` are those from `b + 1`, and `b` itself, of value 0, is no target -/
theorem searchChange_spec (τ : Int) (hτ : 0 ≤ τ) (b maxId : Nat) (hb : b ≤ maxId) (change : List Int)
    (hlen : maxId + 1 < change.length) (h0 : change.getD b 0 = 0) :
    SearchSpec τ (changeTo change b) (fun j => j ≤ maxId ∧ j ≠ b) (searchChange τ b change maxId) := by
  have h := searchChange_scan τ b maxId hb change hlen
  generalize searchChange τ b change maxId = res at h ⊢
  obtain ⟨o, a⟩ := res
  cases o with
  | none => exact fun j hj => changeTo_eq_around h0 hj.2 ▸ h j hj.1
  | some to =>
    obtain ⟨g1, g2, g3⟩ := h
    have hne : to ≠ b := fun e => by
      rw [e, around_self, h0] at g3
      omega
    show _ ∧ _
    rw [changeTo_eq_around h0 hne]
    exact ⟨⟨g1, hne⟩, g2, g3⟩

end BioSM
open BioSM

-- right scan: cell 3 receives change[2] + change[3] = -1 = changeTo .. 1 3
#guard searchChange 0 1 [3, 0, 1, -2, 5, 0] 4 == (some 3, [3, 0, 1, -1, 5, 0])
#guard changeTo [3, 0, 1, -2, 5, 0] 1 3 == -1
-- left scan (nothing on the right): bucket 0, cumulative delta change[0] + change[1]
#guard searchChange 0 2 [-1, 0, 0, 1, 0] 3 == (some 0, [-1, 0, 0, 1, 0])
#guard changeTo [-1, 0, 0, 1, 0] 2 0 == -1
-- a larger threshold hides the same target; b = 0 and b = maxId
#guard (searchChange 1 2 [-1, 0, 0, 1, 0] 3).1 == none
#guard searchChange 0 0 [0, 1, -3, 0] 2 == (some 2, [0, 1, -2, 0])
#guard searchChange 0 2 [-4, 2, 0, 0] 2 == (some 0, [-2, 2, 0, 0])
#guard searchAdd 0 1 [-1, 1, 0, 2, 0, 0] 3 == (none, [0, 1, 0, 2, 2, 0])
#guard searchAdd 0 1 [-3, 1, 0, 2, 0, 0] 3 == (some 0, [-2, 1, 0, 2, 2, 0])
#guard addTo [-3, 1, 0, 2, 0, 0] 1 0 == -2
#guard searchAdd 0 0 [0, 0, 0, 0] 1 == (none, [0, 0, 0, 0])
#guard searchAdd 0 1 [5, 5, 1, -2, 0, 0] 2 == (some 3, [5, 5, 1, -1, 0, 0])

example : ∀ j, j ≤ 3 → j ≠ 2 → -1 ≤ changeTo [-1, 0, 0, 1, 0] 2 j :=
  fun j h1 h2 => (searchChange_spec 1 (by decide) 2 3 (by decide) [-1, 0, 0, 1, 0] (by decide) (by decide)).none
    (a := [-1, 0, 0, 1, 0]) (by decide) j ⟨h1, h2⟩

end Corankco
