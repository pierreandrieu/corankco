import Corankco.Lemmas.Basic
import Corankco.Spec.Algos
/-
  Well-formed rankings (`wellFormed_iff`; `C03.holds_of` for a list of them), complete datasets, and rankings unified by
  one last bucket of their missing elements (`flatten_unifyRanking`).  On a complete dataset unification changes nothing
  (`ite_complete_eq_unified`); a unified input ranking is well formed over the universe (`wellFormed_unifyRanking`).
-/
namespace Corankco
open Model Spec

theorem wellFormed_iff {univ : List Elem} {r : Ranking} :
    Spec.wellFormedRanking univ r = true ↔
      (∀ b ∈ r, b ≠ []) ∧ r.flatten.Nodup ∧ (∀ x ∈ r.flatten, x ∈ univ) ∧ (∀ x ∈ univ, x ∈ r.flatten) := by
  simp only [Spec.wellFormedRanking, Bool.and_eq_true, List.all_eq_true, decide_eq_true_eq, List.contains_iff_mem,
    Bool.not_eq_true', List.isEmpty_eq_false_iff, ne_eq, and_assoc]

theorem wellFormed_of_perm {univ : List Elem} {r : Ranking} (hp : r.flatten.Perm univ) (hnd : univ.Nodup)
    (hne : ∀ b ∈ r, b ≠ []) : Spec.wellFormedRanking univ r = true :=
  wellFormed_iff.mpr
    ⟨hne, hp.nodup_iff.mpr hnd, fun _ hx => hp.mem_iff.mp hx, fun _ hx => hp.mem_iff.mpr hx⟩

theorem perm_of_wellFormed {univ : List Elem} (hu : univ.Nodup) {r : Ranking}
    (hw : Spec.wellFormedRanking univ r = true) : r.flatten.Perm univ := by
  obtain ⟨_, w2, w3, w4⟩ := wellFormed_iff.mp hw
  exact (List.perm_ext_iff_of_nodup w2 hu).mpr fun a => ⟨w3 a, w4 a⟩

theorem wellFormed_allTied (univ : List Elem) (hu : univ.Nodup) (hne : univ ≠ []) :
    wellFormedRanking univ [univ] = true := by
  rw [wellFormed_iff]
  refine ⟨?_, by simpa using hu, by simp, by simp⟩
  intro b hb
  rw [List.mem_singleton.mp hb]
  exact hne

theorem C03.holds_of (D : Dataset) (amo : Bool) (out : List Ranking) (hne : out ≠ [])
    (h1 : amo = true → out.length = 1) (hw : ∀ c ∈ out, wellFormedRanking (univOf D) c = true) :
    C03.holds D amo out = true := by
  unfold C03.holds
  simp only [Bool.and_eq_true, decide_eq_true_eq, Bool.or_eq_true, Bool.not_eq_true', beq_iff_eq,
    List.all_eq_true]
  refine ⟨⟨List.length_pos_iff.mpr hne, ?_⟩, hw⟩
  cases amo with
  | true => exact .inr (h1 rfl)
  | false => exact .inl rfl

theorem C03.holds_single (D : Dataset) (amo : Bool) (r : Ranking) (h : wellFormedRanking (univOf D) r = true) :
    C03.holds D amo [r] = true :=
  holds_of D amo [r] (by simp) (fun _ => rfl) (by simpa using h)

theorem mem_flatten_of_isComplete {D : Dataset} (hc : isComplete D = true) :
    ∀ r ∈ D, ∀ x ∈ univOf D, x ∈ r.flatten := by
  intro r hr x hx
  unfold isComplete at hc
  simp only [List.all_eq_true, List.contains_iff_mem] at hc
  exact hc x hx r hr

theorem flatten_unifyRanking (univ : List Elem) (r : Ranking) :
    (unifyRanking univ r).flatten = r.flatten ++ univ.filter fun x => !(r.flatten.contains x) := by
  unfold unifyRanking
  simp only
  split
  · rename_i h
    rw [List.isEmpty_iff] at h
    rw [h]; simp
  · simp

theorem mem_unifyRanking {D : Dataset} {r : Ranking} (hr : r ∈ D) (x : Elem) :
    x ∈ (unifyRanking (univOf D) r).flatten ↔ x ∈ univOf D := by
  rw [flatten_unifyRanking, List.mem_append, List.mem_filter]
  by_cases h : x ∈ r.flatten
  · simp [h, mem_univOf_of_mem hr h]
  · simp [h]

theorem nodup_unifyRanking {univ : List Elem} (hu : univ.Nodup) {r : Ranking} (hr : r.flatten.Nodup) :
    (unifyRanking univ r).flatten.Nodup := by
  rw [flatten_unifyRanking, List.nodup_append]
  refine ⟨hr, hu.sublist List.filter_sublist, ?_⟩
  intro a ha b hb hab
  subst hab
  rw [List.mem_filter] at hb
  simp [ha] at hb

theorem ne_nil_of_mem_unifyRanking {univ : List Elem} {r : Ranking} (hne : ∀ b ∈ r, b ≠ []) :
    ∀ b ∈ unifyRanking univ r, b ≠ [] := by
  unfold unifyRanking
  simp only
  split
  · exact hne
  · next h =>
    intro b hb
    rcases List.mem_append.mp hb with hb | hb
    · exact hne b hb
    · rw [List.mem_singleton.mp hb]
      exact fun e => h (List.isEmpty_iff.mpr e)

theorem unifyRanking_of_complete {D : Dataset} (hc : isComplete D = true) {r : Ranking} (hr : r ∈ D) :
    unifyRanking (univOf D) r = r := by
  unfold unifyRanking
  have hnil : ((univOf D).filter fun x => !(r.flatten.contains x)) = [] := by
    rw [List.filter_eq_nil_iff]
    intro x hx
    simp [mem_flatten_of_isComplete hc r hr x hx]
  rw [hnil]
  rfl

theorem ite_complete_eq_unified (D : Dataset) :
    (if isComplete D then D else unifiedRankings D) = unifiedRankings D := by
  split
  · rename_i hc
    exact (List.map_id D).symm.trans (List.map_congr_left fun r hr => (unifyRanking_of_complete hc hr).symm)
  · rfl

theorem wellFormed_unifyRanking {D : Dataset} {r : Ranking} (hr : r ∈ D) (h1 : ∀ b ∈ r, b ≠ [])
    (h2 : r.flatten.Nodup) : Spec.wellFormedRanking (univOf D) (unifyRanking (univOf D) r) = true :=
  wellFormed_iff.mpr ⟨ne_nil_of_mem_unifyRanking h1, nodup_unifyRanking (nodup_univOf D) h2,
    fun x => (mem_unifyRanking hr x).mp, fun x => (mem_unifyRanking hr x).mpr⟩

theorem mem_unifiedRankings (D : Dataset) (x : Elem) :
    x ∈ (unifiedRankings D).flatten.flatten ↔ x ∈ univOf D := by
  rw [mem_flatten_flatten]
  unfold unifiedRankings
  constructor
  · rintro ⟨r', hr', hx⟩
    obtain ⟨r, hr, rfl⟩ := List.mem_map.mp hr'
    exact (mem_unifyRanking hr x).mp hx
  · intro hx
    obtain ⟨r, hr, -⟩ := (mem_univOf D x).mp hx
    exact ⟨_, List.mem_map_of_mem hr, (mem_unifyRanking hr x).mpr hx⟩

theorem nodup_unifiedRankings (D : Dataset) (hD : ∀ r ∈ D, r.flatten.Nodup) :
    ∀ r ∈ unifiedRankings D, r.flatten.Nodup := by
  intro r' hr'
  obtain ⟨r, hr, rfl⟩ := List.mem_map.mp hr'
  exact nodup_unifyRanking (nodup_univOf D) (hD r hr)

end Corankco
