import Corankco.Lemmas.C01Defs
/-
  The dot products of the count vectors under a valid scheme, the accumulation over the dataset in `getScore`, and
  `Spec.covers` as a statement on the universe (`covers_iff`).
-/
namespace Corankco
namespace C01
open Model Spec

/-- The counters that `costByRanking` does not compute, or computes together, meet penalties that vanish or coincide
    (the four hypotheses are part of `Scheme.Valid`). -/
theorem dot_counts_eq_kemenyOne (S : Scheme) (hb0 : S.b0 = 0) (ht01 : S.t0 = S.t1) (ht2 : S.t2 = 0)
    (ht34 : S.t3 = S.t4) (c r : Ranking) :
    dot [0, nOrd c r 1, nOrd c r 2, nOrd c r 3, nOrd c r 4, nOrd c r 5] S.bList
      + dot [nTie c r 0 + nTie c r 1, 0, 0, nTie c r 3 + nTie c r 4, 0, nTie c r 5] S.tList = kemenyOne S c r := by
  rw [kemenyOne_eq_dot]
  simp only [dot, Scheme.bList, Scheme.tList, List.range, List.range.loop, List.map, hb0, ht2, ht01, ht34,
    Int.natCast_add, Int.add_mul, Int.add_assoc, Int.natCast_zero, Int.zero_mul, Int.mul_zero, Int.zero_add]

theorem dot_addVec {v w : List Nat} {u : List Int} (h : v.length = w.length) :
    dot (addVec v w) u = dot v u + dot w u := by
  induction v generalizing w u with
  | nil =>
    cases w with
    | nil => rfl
    | cons b w => cases h
  | cons a v ih =>
    cases w with
    | nil => cases h
    | cons b w =>
      cases u with
      | nil => rfl
      | cons e u =>
        simp only [addVec, dot, ih (Nat.succ.inj h), Int.natCast_add, Int.add_mul]
        simp +arith only

theorem addVec_length {v w : List Nat} (h : v.length = w.length) : (addVec v w).length = v.length := by
  induction v generalizing w with
  | nil => cases w <;> rfl
  | cons a v ih =>
    cases w with
    | nil => cases h
    | cons b w => exact congrArg (· + 1) (ih (Nat.succ.inj h))

theorem foldl_addVec_dot {α : Type} (g : α → List Nat × List Nat) (u₁ u₂ : List Int) (n : Nat) (l : List α)
    (hg : ∀ a ∈ l, (g a).1.length = n ∧ (g a).2.length = n) (acc : List Nat × List Nat)
    (h1 : acc.1.length = n) (h2 : acc.2.length = n) :
    dot (l.foldl (fun acc a => (addVec acc.1 (g a).1, addVec acc.2 (g a).2)) acc).1 u₁
      + dot (l.foldl (fun acc a => (addVec acc.1 (g a).1, addVec acc.2 (g a).2)) acc).2 u₂
      = dot acc.1 u₁ + dot acc.2 u₂ + isum (l.map fun a => dot (g a).1 u₁ + dot (g a).2 u₂) := by
  induction l generalizing acc with
  | nil => simp
  | cons a l ih =>
    obtain ⟨l1, l2⟩ := hg a (List.mem_cons_self ..)
    rw [List.foldl_cons, ih (fun b hb => hg b (List.mem_cons_of_mem a hb)) _
      ((addVec_length (h1.trans l1.symm)).trans h1) ((addVec_length (h2.trans l2.symm)).trans h2),
      dot_addVec (h1.trans l1.symm), dot_addVec (h2.trans l2.symm), List.map_cons, isum_cons]
    simp +arith only

theorem covers_iff {c : Ranking} {D : Dataset} : covers c D = true ↔ ∀ x ∈ univOf D, x ∈ c.flatten := by
  simp only [covers, univOf, List.all_eq_true, List.contains_iff_mem, mem_dedup]

end C01
end Corankco
